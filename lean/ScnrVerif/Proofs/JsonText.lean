import ScnrVerif.Model.JsonText
import ScnrVerif.Model.Json
/-!
# JSON text round trip (C16, text layer)

The parser accepts much more than the printer writes (whitespace, `\/`, `\uXXXX` for any
character, upper-case hex digits, fractions and exponents): that part is covered by the examples
and by the driver's differential runs, not by a theorem.
-/
namespace Scnr

theorem Key.ofText_text (k : Key) (h : k.wf = true) : Key.ofText (Key.text k) = k := by
  cases k with
  | other s =>
    have hn : Key.known.find? (fun k => k.text == s) = none := by
      rw [List.find?_eq_none]
      intro x hx
      have := (List.all_eq_true.mp h) x hx
      simpa using this
    show Key.ofText s = Key.other s
    unfold Key.ofText
    rw [hn]
  | _ => rfl

theorem jIsDigit_iff (c : Nat) : jIsDigit c = true ↔ 48 ≤ c ∧ c ≤ 57 := by
  simp only [jIsDigit, Bool.and_eq_true, decide_eq_true_eq]

theorem jNatDigits_lt (n : Nat) (h : n < 10) : jNatDigits n = [48 + n] := by
  rw [jNatDigits]; simp [h]

theorem jNatDigits_ge (n : Nat) (h : ¬ n < 10) : jNatDigits n = jNatDigits (n / 10) ++ [48 + n % 10] := by
  rw [jNatDigits]; simp [h]

theorem jDigitsVal_snoc (ds : List Nat) (d : Nat) : jDigitsVal (ds ++ [d]) = jDigitsVal ds * 10 + (d - 48) := by
  simp [jDigitsVal, List.foldl_append]

theorem jDigitsVal_jNatDigits (n : Nat) : jDigitsVal (jNatDigits n) = n := by
  induction n using jNatDigits.induct with
  | case1 n h => rw [jNatDigits_lt n h]; simp [jDigitsVal]
  | case2 n h ih => rw [jNatDigits_ge n h, jDigitsVal_snoc, ih]; omega

theorem jNatDigits_digits (n : Nat) : ∀ c ∈ jNatDigits n, jIsDigit c = true := by
  induction n using jNatDigits.induct with
  | case1 n h =>
    rw [jNatDigits_lt n h]
    intro c hc
    rw [List.mem_singleton.mp hc]
    exact (jIsDigit_iff _).mpr (by omega)
  | case2 n h ih =>
    rw [jNatDigits_ge n h]
    intro c hc
    rcases List.mem_append.mp hc with hc | hc
    · exact ih c hc
    · rw [List.mem_singleton.mp hc]
      exact (jIsDigit_iff _).mpr (by omega)

theorem jNatDigits_head (n : Nat) (hn : 0 < n) : ∃ d ds, jNatDigits n = d :: ds ∧ d ≠ 48 := by
  induction n using jNatDigits.induct with
  | case1 n h => exact ⟨48 + n, [], jNatDigits_lt n h, by omega⟩
  | case2 n h ih =>
    obtain ⟨d, ds, hd, hne⟩ := ih (by omega)
    exact ⟨d, ds ++ [48 + n % 10], by rw [jNatDigits_ge n h, hd]; rfl, hne⟩

/-- what `parseInt` asks of the digits it takes -/
theorem jNatDigits_shape (n : Nat) :
    ∃ d ds, jNatDigits n = d :: ds ∧ jIsDigit d = true ∧ ¬(d = 48 ∧ ds ≠ []) := by
  by_cases hn : n = 0
  · subst hn; exact ⟨48, [], jNatDigits_lt 0 (by omega), by decide, by simp⟩
  · obtain ⟨d, ds, hd, hne⟩ := jNatDigits_head n (by omega)
    refine ⟨d, ds, hd, ?_, fun h => hne h.1⟩
    exact jNatDigits_digits n d (by rw [hd]; simp)

/-- what may follow a number: nothing that would continue it -/
def numEnd : List Nat → Bool
  | [] => true
  | c :: _ => !jIsDigit c && c != 46 && c != 101 && c != 69

theorem numEnd_cons (c : Nat) (r : List Nat) :
    numEnd (c :: r) = true ↔ jIsDigit c = false ∧ c ≠ 46 ∧ c ≠ 101 ∧ c ≠ 69 := by
  simp only [numEnd, Bool.and_eq_true, Bool.not_eq_true', bne_iff_ne, ne_eq, and_assoc]

theorem takeDigits_append (ds rest : List Nat) (hds : ∀ c ∈ ds, jIsDigit c = true)
    (hrest : numEnd rest = true) : takeDigits (ds ++ rest) = (ds, rest) := by
  induction ds with
  | nil =>
    cases rest with
    | nil => rfl
    | cons c r => simp [takeDigits, ((numEnd_cons c r).mp hrest).1]
  | cons d ds ih =>
    have hd : jIsDigit d = true := hds d (by simp)
    have := ih (fun c hc => hds c (List.mem_cons_of_mem _ hc))
    simp [takeDigits, hd, this]

theorem parseFrac_numEnd (rest : List Nat) (h : numEnd rest = true) : parseFrac rest = some (false, rest) := by
  cases rest with
  | nil => rfl
  | cons c r => simp [parseFrac, ((numEnd_cons c r).mp h).2.1]

theorem parseExp_numEnd (rest : List Nat) (h : numEnd rest = true) : parseExp rest = some (false, rest) := by
  cases rest with
  | nil => rfl
  | cons c r => simp [parseExp, ((numEnd_cons c r).mp h).2.2]

theorem parseNumber_jNatDigits (n : Nat) (rest : List Nat) (h : numEnd rest = true) :
    parseNumber (jNatDigits n ++ rest) = some (Json.num n, rest) := by
  obtain ⟨d, ds, hd, hdig, hz⟩ := jNatDigits_shape n
  have h45 : d ≠ 45 := by
    have := (jIsDigit_iff d).mp hdig
    omega
  have htd := takeDigits_append (jNatDigits n) rest (jNatDigits_digits n) h
  have hint : parseInt (jNatDigits n ++ rest) = some (jNatDigits n, rest) := by
    unfold parseInt
    rw [htd, hd]
    simp only [hz, if_false]
  have hbody : parseNumberBody false (jNatDigits n ++ rest) = some (Json.num n, rest) := by
    unfold parseNumberBody
    rw [hint]
    simp only [parseFrac_numEnd rest h, parseExp_numEnd rest h, jDigitsVal_jNatDigits]
    rfl
  rw [← hbody, hd]
  simp [parseNumber, h45]

theorem hexVal_hexDigit : ∀ a, a < 16 → hexVal (hexDigit a) = some a := by decide

theorem hex4_ctrl (c : Nat) (hc : c < 32) (rest : List Nat) :
    hex4 (48 :: 48 :: hexDigit (c / 16) :: hexDigit (c % 16) :: rest) = some (c, rest) := by
  have h0 : hexVal 48 = some 0 := by decide
  have h1 := hexVal_hexDigit (c / 16) (by omega)
  have h2 := hexVal_hexDigit (c % 16) (by omega)
  have hv : ((0 * 16 + 0) * 16 + c / 16) * 16 + c % 16 = c := by omega
  simp only [hex4, h0, h1, h2, hv]

theorem printChar_cases (c : Nat) :
    (printChar c = [c] ∧ c ≠ 34 ∧ c ≠ 92 ∧ ¬ c < 32) ∨
    ∃ e, printChar c = 92 :: e ∧ ∀ rest, parseEscape (e ++ rest) = some (c, rest) := by
  -- `by_cases` one after the other: `split` on the nested `if`s doubles its work at every level
  by_cases h34 : c = 34
  · subst h34; exact .inr ⟨[34], rfl, fun _ => rfl⟩
  by_cases h92 : c = 92
  · subst h92; exact .inr ⟨[92], rfl, fun _ => rfl⟩
  by_cases h8 : c = 8
  · subst h8; exact .inr ⟨[98], rfl, fun _ => rfl⟩
  by_cases h12 : c = 12
  · subst h12; exact .inr ⟨[102], rfl, fun _ => rfl⟩
  by_cases h10 : c = 10
  · subst h10; exact .inr ⟨[110], rfl, fun _ => rfl⟩
  by_cases h13 : c = 13
  · subst h13; exact .inr ⟨[114], rfl, fun _ => rfl⟩
  by_cases h9 : c = 9
  · subst h9; exact .inr ⟨[116], rfl, fun _ => rfl⟩
  by_cases hlt : c < 32
  · refine .inr ⟨[117, 48, 48, hexDigit (c / 16), hexDigit (c % 16)], ?_, fun rest => ?_⟩
    · simp only [printChar, if_neg, if_pos, h34, h92, h8, h12, h10, h13, h9, hlt, not_false_eq_true]
    · have hs1 : ¬(0xD800 ≤ c ∧ c < 0xDC00) := by omega
      have hs2 : ¬(0xDC00 ≤ c ∧ c < 0xE000) := by omega
      show parseEscape (117 :: 48 :: 48 :: hexDigit (c / 16) :: hexDigit (c % 16) :: rest) = _
      simp [parseEscape, hex4_ctrl c hlt, hs1, hs2]
  · refine .inl ⟨?_, h34, h92, hlt⟩
    simp only [printChar, if_neg, h34, h92, h8, h12, h10, h13, h9, hlt, not_false_eq_true]

theorem printChar_length_pos (c : Nat) : 1 ≤ (printChar c).length := by
  rcases printChar_cases c with ⟨h, _⟩ | ⟨e, h, _⟩
  · rw [h]; exact Nat.le_refl 1
  · rw [h]; exact Nat.le_add_left 1 _

theorem parseStrBody_char (c : Nat) (hc : isScalar c = true) (fuel : Nat) (rest s r' : List Nat)
    (h : parseStrBody fuel rest = some (s, r')) :
    parseStrBody (fuel + 1) (printChar c ++ rest) = some (c :: s, r') := by
  rcases printChar_cases c with ⟨hp, h34, h92, h32⟩ | ⟨e, hp, he⟩
  · rw [hp]
    simp only [List.cons_append, List.nil_append, parseStrBody, if_neg, h34, h92, h32, hc, h,
      not_false_eq_true, if_true]
  · rw [hp]
    simp only [List.cons_append, parseStrBody, he, h, show ¬ (92 = 34) by decide, if_false, if_true]

theorem parseStrBody_print : ∀ (fuel : Nat) (s rest : List Nat), s.all isScalar = true → s.length < fuel →
    parseStrBody fuel (printStrBody s ++ rest) = some (s, rest)
  | 0, _, _, _, hf => absurd hf (Nat.not_lt_zero _)
  | _ + 1, [], _, _, _ => rfl
  | f + 1, c :: cs, rest, hs, hf => by
    simp only [List.all_cons, Bool.and_eq_true] at hs
    rw [printStrBody, List.append_assoc]
    exact parseStrBody_char c hs.1 f _ cs rest
      (parseStrBody_print f cs rest hs.2 (by simp only [List.length_cons] at hf; omega))

theorem printStrBody_length (s : List Nat) : s.length + 1 ≤ (printStrBody s).length := by
  induction s with
  | nil => simp [printStrBody]
  | cons c cs ih =>
    have := printChar_length_pos c
    simp only [printStrBody, List.length_append, List.length_cons]; omega

theorem parseString_print (s : List Nat) (hs : s.all isScalar = true) (rest : List Nat) :
    parseString (printStrBody s ++ rest) = some (s, rest) := by
  unfold parseString
  apply parseStrBody_print _ s rest hs
  have := printStrBody_length s
  simp only [List.length_append]; omega

theorem skipWs_cons (c : Nat) (r : List Nat) (h : jIsWs c = false) : skipWs (c :: r) = c :: r := by
  simp [skipWs, h]

theorem jIsWs_of_digit (c : Nat) (h : jIsDigit c = true) : jIsWs c = false := by
  have := (jIsDigit_iff c).mp h
  simp only [jIsWs, Bool.or_eq_false_iff, beq_eq_false_iff_ne]
  omega

theorem printJson_head (v : Json) (rest : List Nat) :
    ∃ c tl, printJson v ++ rest = c :: tl ∧ jIsWs c = false ∧ c ≠ 93 := by
  cases v with
  | num n =>
    obtain ⟨d, ds, hd, hdig, _⟩ := jNatDigits_shape n
    have := (jIsDigit_iff d).mp hdig
    exact ⟨d, ds ++ rest, by rw [printJson, hd]; rfl, jIsWs_of_digit d hdig, by omega⟩
  | bool b => cases b <;> exact ⟨_, _, rfl, by decide, by decide⟩
  | _ => exact ⟨_, _, rfl, by decide, by decide⟩

/-! ### sequences with commas

`parseElems` and `parseMembers` are one loop `L`: read an item with `q`, skip whitespace, go on behind
a comma, stop behind the closing character; `printTail` and `printMTail` are one tail `T` of items
printed by `p`. The round trip uses of `L` only its two successful steps and of `T` its two equations. -/

section
variable {α : Type} {close : Nat} {p : α → List Nat} {T : List α → List Nat}
  {q : List Nat → Option (α × List Nat)} {L : Nat → List Nat → Option (List α × List Nat)}
  (hnil : T [] = [close]) (hcons : ∀ y ys, T (y :: ys) = 44 :: (p y ++ T ys))
include hnil hcons

theorem sepLoop_print (hclose : ∀ r, numEnd (close :: r) = true)
    (stop : ∀ n cs v r, q cs = some (v, close :: r) → L (n + 1) cs = some ([v], r))
    (next : ∀ n cs v r vs r', q cs = some (v, 44 :: r) → L n r = some (vs, r') →
      L (n + 1) cs = some (v :: vs, r')) :
    ∀ (n : Nat) (x : α) (xs : List α) (rest : List Nat), xs.length < n →
      (∀ y ∈ x :: xs, ∀ r, numEnd r = true → q (p y ++ r) = some (y, r)) →
      L n (p x ++ (T xs ++ rest)) = some (x :: xs, rest)
  | 0, _, _, _, hn, _ => absurd hn (Nat.not_lt_zero _)
  | n + 1, x, [], rest, _, hq => by
    rw [hnil]
    exact stop n _ x rest (hq x (List.mem_cons_self ..) _ (hclose rest))
  | n + 1, x, y :: ys, rest, hn, hq => by
    rw [hcons, List.cons_append, List.append_assoc]
    exact next n _ x _ (y :: ys) rest (hq x (List.mem_cons_self ..) _ rfl)
      (sepLoop_print hclose stop next n y ys rest (Nat.lt_of_succ_lt_succ hn)
        fun z hz => hq z (List.mem_cons_of_mem _ hz))

theorem sepSeq_bound : ∀ (x : α) (xs : List α), xs.length < (p x ++ T xs).length ∧
    ∀ y ∈ x :: xs, (p y).length < (p x ++ T xs).length
  | x, [] => by
    rw [hnil, List.length_append]
    exact ⟨Nat.succ_pos _, fun y hy => by rw [List.mem_singleton.mp hy]; exact Nat.lt_succ_self _⟩
  | x, y :: ys => by
    have ⟨h1, h2⟩ := sepSeq_bound y ys
    rw [hcons, List.length_append, List.length_cons, List.length_cons]
    refine ⟨Nat.lt_add_left _ (Nat.succ_lt_succ h1), fun z hz => ?_⟩
    rcases List.mem_cons.mp hz with rfl | hz
    · exact Nat.lt_add_of_pos_right (Nat.succ_pos _)
    · exact Nat.lt_add_left _ (Nat.lt_succ_of_lt (h2 z hz))

end

theorem parseElems_print (pv : List Nat → Option (Json × List Nat)) :
    ∀ (n : Nat) (x : Json) (xs : List Json) (rest : List Nat), xs.length < n →
      (∀ y ∈ x :: xs, ∀ r, numEnd r = true → pv (printJson y ++ r) = some (y, r)) →
      parseElems pv n (printJson x ++ (printTail xs ++ rest)) = some (x :: xs, rest) :=
  sepLoop_print rfl (fun _ _ => rfl) (fun _ => rfl)
    (fun n cs v r h => by simp [parseElems, h, skipWs, jIsWs])
    (fun n cs v r vs r' h h' => by simp [parseElems, h, h', skipWs, jIsWs])

/-- one member as `printMembers` and `printMTail` write it -/
def printMember (kv : Key × Json) : List Nat := printStr kv.1.text ++ 58 :: printJson kv.2

theorem printMembers_cons (kv : Key × Json) (kvs : List (Key × Json)) :
    printMembers (kv :: kvs) = printMember kv ++ printMTail kvs := by
  simp [printMembers, printMember]

theorem printMTail_cons (kv : Key × Json) (kvs : List (Key × Json)) :
    printMTail (kv :: kvs) = 44 :: (printMember kv ++ printMTail kvs) := by
  simp [printMTail, printMember]

theorem printMember_length (kv : Key × Json) : (printJson kv.2).length < (printMember kv).length := by
  rw [printMember, List.length_append, List.length_cons]
  exact Nat.lt_add_left _ (Nat.lt_succ_self _)

theorem parseMember_print (pv : List Nat → Option (Json × List Nat)) (kv : Key × Json) (r : List Nat)
    (hk : kv.1.wf = true) (hs : kv.1.text.all isScalar = true)
    (hpv : pv (printJson kv.2 ++ r) = some (kv.2, r)) :
    parseMember pv (printMember kv ++ r) = some (kv, r) := by
  unfold parseMember
  simp only [printMember, printStr, List.cons_append, List.append_assoc]
  rw [skipWs_cons 34 _ (by decide)]
  simp only [if_true, parseString_print kv.1.text hs]
  rw [skipWs_cons 58 _ (by decide)]
  simp only [if_true, hpv, Key.ofText_text kv.1 hk]

theorem parseMembers_print (pv : List Nat → Option (Json × List Nat)) :
    ∀ (n : Nat) (kv : Key × Json) (kvs : List (Key × Json)) (rest : List Nat), kvs.length < n →
      (∀ y ∈ kv :: kvs, ∀ r, numEnd r = true → parseMember pv (printMember y ++ r) = some (y, r)) →
      parseMembers pv n (printMember kv ++ (printMTail kvs ++ rest)) = some (kv :: kvs, rest) :=
  sepLoop_print rfl printMTail_cons (fun _ => rfl)
    (fun n cs kv r h => by simp [parseMembers, h, skipWs, jIsWs])
    (fun n cs kv r kvs r' h h' => by simp [parseMembers, h, h', skipWs, jIsWs])

theorem parseValue_digit (fuel c : Nat) (r : List Nat) (h : jIsDigit c = true) :
    parseValue (fuel + 1) (c :: r) = parseNumber (c :: r) := by
  simp only [parseValue, skipWs_cons c r (jIsWs_of_digit c h), h, Bool.true_or, if_true]

theorem parseValue_num (fuel n : Nat) (rest : List Nat) (h : numEnd rest = true) :
    parseValue (fuel + 1) (printJson (.num n) ++ rest) = some (.num n, rest) := by
  obtain ⟨d, ds, hd, hdig, _⟩ := jNatDigits_shape n
  rw [← parseNumber_jNatDigits n rest h, printJson, hd]
  exact parseValue_digit fuel d _ hdig

theorem parseValue_str (fuel : Nat) (s : List Nat) (hs : s.all isScalar = true) (rest : List Nat) :
    parseValue (fuel + 1) (printJson (.str s) ++ rest) = some (.str s, rest) := by
  rw [printJson, printStr, List.cons_append, parseValue, skipWs_cons 34 _ (by decide)]
  simp only [parseString_print s hs]
  rfl

-- In the next two the text is brought into the form `c :: _` before `parseValue` is unfolded: the
-- unfolded body holds the text once per branch.
theorem parseValue_arr (fuel : Nat) (x : Json) (xs : List Json) (rest : List Nat) (hn : xs.length < fuel)
    (hpv : ∀ y ∈ x :: xs, ∀ r, numEnd r = true → parseValue fuel (printJson y ++ r) = some (y, r)) :
    parseValue (fuel + 1) (printJson (.arr (x :: xs)) ++ rest) = some (.arr (x :: xs), rest) := by
  obtain ⟨c, tl, hc, hws, h93⟩ := printJson_head x (printTail xs ++ rest)
  have hl := parseElems_print (parseValue fuel) fuel x xs rest hn hpv
  rw [hc] at hl
  rw [printJson, printElems, List.cons_append, List.append_assoc, hc, parseValue, skipWs_cons 91 _ (by decide)]
  simp only [skipWs_cons c tl hws, hl, h93, if_false]
  rfl

theorem parseValue_obj (fuel : Nat) (kv : Key × Json) (kvs : List (Key × Json)) (rest : List Nat)
    (hn : kvs.length < fuel)
    (hpv : ∀ y ∈ kv :: kvs, y.1.wf = true ∧ y.1.text.all isScalar = true ∧
        ∀ r, numEnd r = true → parseValue fuel (printJson y.2 ++ r) = some (y.2, r)) :
    parseValue (fuel + 1) (printJson (.obj (kv :: kvs)) ++ rest) = some (.obj (kv :: kvs), rest) := by
  obtain ⟨tl, hc⟩ : ∃ tl, printMember kv ++ (printMTail kvs ++ rest) = 34 :: tl := ⟨_, rfl⟩
  have hl := parseMembers_print (parseValue fuel) fuel kv kvs rest hn fun y hy r hr =>
    parseMember_print _ y r (hpv y hy).1 (hpv y hy).2.1 ((hpv y hy).2.2 r hr)
  rw [hc] at hl
  rw [printJson, printMembers_cons, List.cons_append, List.append_assoc, hc, parseValue,
    skipWs_cons 123 _ (by decide)]
  simp only [skipWs_cons 34 tl (by decide), hl]
  rfl

theorem textOKList_iff (xs : List Json) : textOKList xs = true ↔ ∀ y ∈ xs, y.textOK = true := by
  induction xs with
  | nil => simp only [textOKList, List.not_mem_nil, false_imp_iff, implies_true]
  | cons x xs ih => simp only [textOKList, Bool.and_eq_true, List.mem_cons, forall_eq_or_imp, ih]

theorem textOKMembers_iff (kvs : List (Key × Json)) : textOKMembers kvs = true ↔
    ∀ kv ∈ kvs, kv.1.wf = true ∧ kv.1.text.all isScalar = true ∧ kv.2.textOK = true := by
  induction kvs with
  | nil => simp only [textOKMembers, List.not_mem_nil, false_imp_iff, implies_true]
  | cons kv kvs ih =>
    obtain ⟨k, x⟩ := kv
    simp only [textOKMembers, Bool.and_eq_true, List.mem_cons, forall_eq_or_imp, ih, and_assoc]

theorem textOKList_map {α : Type} (f : α → Json) (l : List α) (h : ∀ a ∈ l, (f a).textOK = true) :
    textOKList (l.map f) = true := by
  rw [textOKList_iff]
  intro y hy
  obtain ⟨a, ha, rfl⟩ := List.mem_map.mp hy
  exact h a ha

/-- **The value parser reads back every printed tree**, whatever follows it (if that cannot
    continue a number), given more fuel than the printed text is long. -/
theorem parseValue_printJson : ∀ (fuel : Nat) (v : Json) (rest : List Nat), v.textOK = true →
    (printJson v).length < fuel → numEnd rest = true →
    parseValue fuel (printJson v ++ rest) = some (v, rest)
  | 0, _, _, _, hlen, _ => absurd hlen (Nat.not_lt_zero _)
  | fuel + 1, v, rest, hv, hlen, hrest => by
    cases v with
    | null => rfl
    | bool b => cases b <;> rfl
    | num n => exact parseValue_num fuel n rest hrest
    | float => simp [Json.textOK] at hv
    | str s => exact parseValue_str fuel s (by simpa [Json.textOK] using hv) rest
    | arr xs =>
      cases xs with
      | nil => rfl
      | cons x xs =>
        have ⟨hl, hm⟩ := sepSeq_bound (p := printJson) (T := printTail) rfl (fun _ _ => rfl) x xs
        have hlen : (printJson x ++ printTail xs).length < fuel := Nat.lt_of_succ_lt_succ hlen
        exact parseValue_arr fuel x xs rest (Nat.lt_trans hl hlen) fun y hy r hr =>
          parseValue_printJson fuel y r ((textOKList_iff _).mp hv y hy) (Nat.lt_trans (hm y hy) hlen) hr
    | obj kvs =>
      cases kvs with
      | nil => rfl
      | cons kv kvs =>
        have ⟨hl, hm⟩ := sepSeq_bound (T := printMTail) rfl printMTail_cons kv kvs
        rw [printJson, printMembers_cons] at hlen
        have hlen := Nat.lt_of_succ_lt_succ hlen
        refine parseValue_obj fuel kv kvs rest (Nat.lt_trans hl hlen) fun y hy => ?_
        obtain ⟨h1, h2, h3⟩ := (textOKMembers_iff _).mp hv y hy
        exact ⟨h1, h2, fun r hr => parseValue_printJson fuel y.2 r h3
          (Nat.lt_trans (printMember_length y) (Nat.lt_trans (hm y hy) hlen)) hr⟩

theorem parseJson_printJson (v : Json) (h : v.textOK = true) : parseJson (printJson v) = some v := by
  have := parseValue_printJson ((printJson v).length + 1) v [] h (Nat.lt_succ_self _) rfl
  rw [List.append_nil] at this
  simp [parseJson, this, skipWs]

theorem printJson_injective (a b : Json) (ha : a.textOK = true) (hb : b.textOK = true)
    (h : printJson a = printJson b) : a = b := by
  have h1 := parseJson_printJson a ha
  rw [h, parseJson_printJson b hb] at h1
  exact (Option.some.inj h1).symm

/-! ## Decidable equality of value trees (for the examples) -/

mutual
def Json.beq : Json → Json → Bool
  | .null, .null => true
  | .bool a, .bool b => a == b
  | .num a, .num b => a == b
  | .float, .float => true
  | .str a, .str b => a == b
  | .arr a, .arr b => beqList a b
  | .obj a, .obj b => beqMembers a b
  | _, _ => false
def beqList : List Json → List Json → Bool
  | [], [] => true
  | x :: xs, y :: ys => x.beq y && beqList xs ys
  | _, _ => false
def beqMembers : List (Key × Json) → List (Key × Json) → Bool
  | [], [] => true
  | (k, x) :: xs, (l, y) :: ys => k == l && x.beq y && beqMembers xs ys
  | _, _ => false
end

mutual
theorem Json.beq_iff : ∀ (a b : Json), a.beq b = true ↔ a = b
  | .null, b => by cases b <;> simp [Json.beq]
  | .bool x, b => by cases b <;> simp [Json.beq]
  | .num x, b => by cases b <;> simp [Json.beq]
  | .float, b => by cases b <;> simp [Json.beq]
  | .str x, b => by cases b <;> simp [Json.beq]
  | .arr xs, b => by cases b <;> simp [Json.beq, beqList_iff xs]
  | .obj xs, b => by cases b <;> simp [Json.beq, beqMembers_iff xs]
theorem beqList_iff : ∀ (a b : List Json), beqList a b = true ↔ a = b
  | [], b => by cases b <;> simp [beqList]
  | x :: xs, b => by cases b <;> simp [beqList, Json.beq_iff x, beqList_iff xs]
theorem beqMembers_iff : ∀ (a b : List (Key × Json)), beqMembers a b = true ↔ a = b
  | [], b => by cases b <;> simp [beqMembers]
  | (k, x) :: xs, b => by
    cases b with
    | nil => simp [beqMembers]
    | cons y ys => obtain ⟨l, y⟩ := y; simp [beqMembers, Json.beq_iff x, beqMembers_iff xs, and_assoc]
end

theorem Json.eq_of_beq : ∀ (a b : Json), a.beq b = true → a = b := fun a b => (Json.beq_iff a b).mp
theorem eqList_of_beq : ∀ (a b : List Json), beqList a b = true → a = b := fun a b => (beqList_iff a b).mp
theorem eqMembers_of_beq : ∀ (a b : List (Key × Json)), beqMembers a b = true → a = b :=
  fun a b => (beqMembers_iff a b).mp
theorem Json.beq_refl : ∀ (a : Json), a.beq a = true := fun a => (Json.beq_iff a a).mpr rfl
theorem beqList_refl : ∀ (a : List Json), beqList a a = true := fun a => (beqList_iff a a).mpr rfl
theorem beqMembers_refl : ∀ (a : List (Key × Json)), beqMembers a a = true :=
  fun a => (beqMembers_iff a a).mpr rfl

instance : DecidableEq Json := fun a b =>
  decidable_of_iff (a.beq b = true) ⟨Json.eq_of_beq a b, fun h => h ▸ Json.beq_refl a⟩

/-- the strings of a pattern are Unicode text (always so for a Rust `String`) -/
def PatternC.textOK (p : PatternC) : Bool :=
  p.pattern.all isScalar &&
    match p.lookahead with
    | none => true
    | some l => l.pattern.all isScalar

def ModeC.textOK (m : ModeC) : Bool := m.name.all isScalar && m.patterns.all PatternC.textOK

theorem toJsonPattern_textOK (p : PatternC) (h : p.textOK = true) : (toJsonPattern p).textOK = true := by
  obtain ⟨pat, t, la⟩ := p
  cases la with
  | none =>
    simp only [PatternC.textOK, Bool.and_true] at h
    simp only [toJsonPattern, List.append_nil, Json.textOK, textOKMembers, h, Bool.and_true]
    decide
  | some l =>
    simp only [PatternC.textOK, Bool.and_eq_true] at h
    simp only [toJsonPattern, toJsonLookahead, List.cons_append, List.nil_append, Json.textOK, textOKMembers,
      h.1, h.2, Bool.and_true]
    decide

theorem toJsonTransition_textOK (t : Nat × Nat) : (toJsonTransition t).textOK = true := by
  simp [toJsonTransition, Json.textOK, textOKList]

theorem toJsonMode_textOK (m : ModeC) (h : m.textOK = true) : (toJsonMode m).textOK = true := by
  obtain ⟨n, ps, ts⟩ := m
  simp only [ModeC.textOK, Bool.and_eq_true, List.all_eq_true] at h
  have h1 := textOKList_map toJsonPattern ps (fun p hp => toJsonPattern_textOK p (h.2 p hp))
  have h2 := textOKList_map toJsonTransition ts (fun t _ => toJsonTransition_textOK t)
  have h0 : n.all isScalar = true := List.all_eq_true.mpr h.1
  simp only [toJsonMode, Json.textOK, textOKMembers, h0, h1, h2, Bool.and_true]
  decide

theorem toJsonModes_textOK (ms : List ModeC) (h : ∀ m ∈ ms, m.textOK = true) :
    (toJsonModes ms).textOK = true := by
  simp only [toJsonModes, Json.textOK]
  exact textOKList_map toJsonMode ms (fun m hm => toJsonMode_textOK m (h m hm))

/-! ## Examples

The parser is evaluated by the kernel (`decide +kernel`: plain kernel reduction of the `Decidable`
instance, no compiler, no additional axioms); the elaborator's own evaluator is several times slower
on the parser and does not unfold the well-founded `jNatDigits` at all. The dear part of a long text
is not the parser but `String.toList` of the literal under `cp`: hence `rw [cp_ofList]` in front of
the evaluation wherever the literal is long. -/

namespace JsonTextEx

def cp (s : String) : List Nat := s.toList.map Char.toNat

/-- The kernel reads a string literal as `String.ofList` of its characters; `rw [cp_ofList]` on a
    literal spares it the UTF-8 encoding and decoding that `String.toList` would go through. -/
theorem cp_ofList (l : List Char) : cp (String.ofList l) = l.map Char.toNat :=
  congrArg _ String.toList_ofList

/-- the field names are the ones of the crate -/
example : Key.known.map Key.text =
    ["name", "patterns", "transitions", "pattern", "token_type", "lookahead", "is_positive", "span",
     "start", "end", "start_position", "end_position", "line", "column"].map cp := by
  simp only [List.map]
  repeat rw [cp_ofList]
  decide +kernel
example : Key.known.map (fun k => Key.ofText k.text) = Key.known := by decide +kernel
example : Key.ofText (cp "stop") = .other (cp "stop") := by decide +kernel
example : Key.wf (.other (cp "stop")) = true ∧ Key.wf (.other (cp "end")) = false := by decide +kernel

/-- A configuration in the layout of the README: spaces, a tab and newlines, `\u` escapes of either
    case, a surrogate pair, an escaped solidus, raw non-ASCII characters, a token type beyond 2^64,
    an unknown field. -/
def readmeLines : List String := [
  "[",
  "  {",
  "    \"name\": \"INITIAL\",",
  "    \"patterns\": [",
  "      { \"pattern\": \"\\\\r\\\\n|\\\\r|\\\\n\", \"token_type\": 1 },",
  "      { \"pattern\": \"\\u0041\\u00e9\\u20AC\\/é\", \"token_type\": 2 },",
  "      { \"pattern\": \"\\ud83d\\uDE00\\\"\",",
  "        \"token_type\": 18446744073709551617,",
  "        \"lookahead\": { \"is_positive\": false,",
  "                       \"pattern\": \"\\\\s\" } }",
  "    ],",
  "    \"transitions\": [ [2, 1] ,\t[ 3,0 ] ],",
  "    \"comment\" : null",
  "  }",
  "]"]
def readmeText : List Nat := (readmeLines.map fun l => cp l ++ [10]).flatten

def readmeTree : Json :=
  .arr [.obj [(.name, .str (cp "INITIAL")),
    (.patterns, .arr [
      .obj [(.pattern, .str (cp "\\r\\n|\\r|\\n")), (.tokenType, .num 1)],
      .obj [(.pattern, .str [0x41, 0xE9, 0x20AC, 47, 0xE9]), (.tokenType, .num 2)],
      .obj [(.pattern, .str [0x1F600, 34]), (.tokenType, .num 18446744073709551617),
            (.lookahead, .obj [(.isPositive, .bool false), (.pattern, .str (cp "\\s"))])]]),
    (.transitions, .arr [.arr [.num 2, .num 1], .arr [.num 3, .num 0]]),
    (.other (cp "comment"), .null)]]

example : parseJson readmeText = some readmeTree := by
  simp only [readmeText, readmeLines, List.map]
  repeat rw [cp_ofList]
  decide +kernel

/-- the tree is one of the round-trip theorem -/
example : readmeTree.textOK = true := by decide +kernel

/-- the compact text that `to_string` writes for it reads back as well -/
example : parseJson (cp "[{\"name\":\"INITIAL\",\"patterns\":[{\"pattern\":\"\\\\r\\\\n|\\\\r|\\\\n\"," ++
    cp "\"token_type\":1},{\"pattern\":\"Aé€/é\",\"token_type\":2},{\"pattern\":\"😀\\\"\"," ++
    cp "\"token_type\":18446744073709551617,\"lookahead\":{\"is_positive\":false," ++
    cp "\"pattern\":\"\\\\s\"}}],\"transitions\":[[2,1],[3,0]],\"comment\":null}]") = some readmeTree := by
  rw [cp_ofList, cp_ofList, cp_ofList, cp_ofList]
  decide +kernel

example : parseJson (cp "340282366920938463463374607431768211456") =
    some (.num 340282366920938463463374607431768211456) := by rw [cp_ofList]; decide +kernel
example : parseJson (cp "18446744073709551616") = some (.num (2 ^ 64)) := by rw [cp_ofList]; decide +kernel
example : parseJson (cp "0") = some (.num 0) := by decide +kernel
example : parseJson (cp "-1") = some .float := by decide +kernel
example : parseJson (cp "-0") = some .float := by decide +kernel
example : parseJson (cp "1.5e3") = some .float := by decide +kernel
example : parseJson (cp "1E-2") = some .float := by decide +kernel
example : parseJson (cp " [ 10 , 2.0 ] ") = some (.arr [.num 10, .float]) := by rw [cp_ofList]; decide +kernel
example : parseJson (cp "01") = none := by decide +kernel
example : parseJson (cp "-") = none := by decide +kernel
example : parseJson (cp "1.") = none := by decide +kernel
example : parseJson (cp ".5") = none := by decide +kernel
example : parseJson (cp "1e") = none := by decide +kernel
example : parseJson (cp "+1") = none := by decide +kernel

example : parseJson (cp "[1,]") = none := by decide +kernel
example : parseJson (cp "{\"a\":1,}") = none := by decide +kernel
example : parseJson (cp "[1 2]") = none := by decide +kernel
example : parseJson (cp "{\"a\" 1}") = none := by decide +kernel
example : parseJson (cp "[1") = none := by decide +kernel
example : parseJson (cp "[] x") = none := by decide +kernel
example : parseJson (cp "nulll") = none := by decide +kernel
example : parseJson (cp "{} {}") = none := by decide +kernel
example : parseJson (cp "") = none := by decide +kernel
example : parseJson (cp " {\n} ") = some (.obj []) := by decide +kernel
example : parseJson (cp "[[[[]]]]") = some (.arr [.arr [.arr [.arr []]]]) := by decide +kernel
/-- duplicate keys are kept in order; `end` is the key `stop`, `stop` is not -/
example : parseJson (cp "{\"end\":1,\"end\":2,\"stop\":3}") =
    some (.obj [(.stop, .num 1), (.stop, .num 2), (.other (cp "stop"), .num 3)]) := by
  rw [cp_ofList]; decide +kernel

example : parseJson (cp "\"\\ud83d\\ude00\"") = some (.str [0x1F600]) := by rw [cp_ofList]; decide +kernel
example : parseJson (cp "\"\\uD83D\"") = none := by decide +kernel
example : parseJson (cp "\"\\ude00\"") = none := by decide +kernel
example : parseJson (cp "\"\\ud83d\\u0041\"") = none := by rw [cp_ofList]; decide +kernel
example : parseJson (cp "\"\\ud83dx\"") = none := by decide +kernel
example : parseJson (cp "\"a\nb\"") = none := by decide +kernel
example : parseJson (cp "\"a\\nb\"") = some (.str [97, 10, 98]) := by decide +kernel
example : parseJson (cp "\"\\x\"") = none := by decide +kernel
example : parseJson (cp "\"\\u12g4\"") = none := by decide +kernel
example : parseJson (cp "\"abc") = none := by decide +kernel
example : parseJson (cp "\"\\\"\\\\\\/\\b\\f\\n\\r\\t\"") = some (.str [34, 92, 47, 8, 12, 10, 13, 9]) := by
  rw [cp_ofList]; decide +kernel
/-- a surrogate code point cannot occur in the text itself -/
example : parseJson [34, 0xD800, 34] = none := by decide +kernel

example : printJson (.obj [(.stop, .str [34, 92, 8, 12, 10, 13, 9, 0, 31, 127, 233, 0x1F600]),
      (.other [107], .arr [.null, .bool true])]) =
    cp "{\"end\":\"\\\"\\\\\\b\\f\\n\\r\\t\\u0000\\u001f\x7fé😀\",\"k\":[null,true]}" := by
  rw [cp_ofList]; decide +kernel
example : printJson (.arr []) = cp "[]" ∧ printJson (.obj []) = cp "{}" ∧ printJson .float = cp "-0.5" := by
  decide +kernel
example : jNatDigits 18446744073709551617 = cp "18446744073709551617" := by
  rw [cp_ofList]; decide +kernel
/-- without the side condition the round trip fails: `other "end"` comes back as `stop` -/
example : parseJson (printJson (.obj [(.other (cp "end"), .null)])) = some (.obj [(.stop, .null)]) := by
  decide +kernel
/-- and a string with a surrogate code point is not read back -/
example : parseJson (printJson (.str [0xD800])) = none := by decide +kernel

end JsonTextEx

end Scnr

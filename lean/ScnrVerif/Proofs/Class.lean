import ScnrVerif.Model.Class
import ScnrVerif.Proofs.Equiv
/-!
# Class evaluation is the set algebra; the per-expression check is exhaustive
-/
namespace Scnr

mutual
theorem evalItem_eq_den (env : Nat → Nat → Bool) (i : CItem) (h : i.noVerbDot = true) (n : Bool) (ch : Nat) :
    evalItem env i n ch = (denItem env i ch != n) := by
  cases i with
  | empty => rfl
  | lit c vd =>
    simp only [CItem.noVerbDot, Bool.not_eq_true'] at h
    subst h
    simp only [evalItem, denItem, inRanges_point, Bool.false_eq_true, if_false]
  | range lo hi => simp only [evalItem, denItem, inRanges_singleton]
  | named id neg => rfl
  | bracketed neg s =>
    simp only [CItem.noVerbDot] at h
    simp only [evalItem, denItem]
    rw [evalSetN_eq_den env s h neg ch]
  | union a b =>
    simp only [CItem.noVerbDot, Bool.and_eq_true] at h
    simp only [evalItem, denItem]
    rw [evalItem_eq_den env a h.1 false ch, evalItem_eq_den env b h.2 false ch, Bool.bne_false, Bool.bne_false]
theorem evalSetN_eq_den (env : Nat → Nat → Bool) (s : CSet) (h : s.noVerbDot = true) (n : Bool) (ch : Nat) :
    evalSetN env n s ch = (denSet env s ch != n) := by
  cases s with
  | item i =>
    simp only [CSet.noVerbDot] at h
    simp only [evalSetN, denSet]
    exact evalItem_eq_den env i h n ch
  | binop k l r =>
    simp only [CSet.noVerbDot, Bool.and_eq_true] at h
    simp only [evalSetN, denSet]
    rw [evalSetN_eq_den env l h.1 false ch, evalSetN_eq_den env r h.2 false ch, Bool.bne_false, Bool.bne_false]
end

mutual
theorem denItem_congr (E : List (List (Nat × Nat))) (i : CItem) (c b : Nat)
    (hE : ∀ id, cmT E id c = cmT E id b) (h : ∀ t ∈ i.tables, inRanges t c = inRanges t b) :
    denItem (cmT E) i c = denItem (cmT E) i b := by
  cases i with
  | empty => rfl
  | lit x vd => exact h _ List.mem_cons_self
  | range lo hi => exact h _ List.mem_cons_self
  | named id neg => simp only [denItem, hE id]
  | bracketed neg s => simp only [denItem, denSet_congr E s c b hE h]
  | union x y =>
    simp only [denItem, denItem_congr E x c b hE fun t ht => h t (List.mem_append_left _ ht),
      denItem_congr E y c b hE fun t ht => h t (List.mem_append_right _ ht)]
theorem denSet_congr (E : List (List (Nat × Nat))) (s : CSet) (c b : Nat)
    (hE : ∀ id, cmT E id c = cmT E id b) (h : ∀ t ∈ s.tables, inRanges t c = inRanges t b) :
    denSet (cmT E) s c = denSet (cmT E) s b := by
  cases s with
  | item i => exact denItem_congr E i c b hE h
  | binop k l r =>
    simp only [denSet, denSet_congr E l c b hE fun t ht => h t (List.mem_append_left _ ht),
      denSet_congr E r c b hE fun t ht => h t (List.mem_append_right _ ht)]
end

/-- If the check passes, the real table agrees with the denotation on every code point (the real
    table holds scalar values only). -/
theorem classCheck_sound (E : List (List (Nat × Nat))) (neg : Bool) (s : CSet) (real : List (Nat × Nat))
    (h : classCheck E neg s real = true) (c : Nat) :
    inRanges real c = (inRanges scalarTable c && (denSet (cmT E) s c != neg)) := by
  unfold classCheck at h
  simp only [List.all_eq_true, beq_iff_eq] at h
  obtain ⟨b, hb, hsame⟩ := mkReps_cover (real :: scalarTable :: (s.tables ++ E)) c
  have hE := cmT_congr_of_tables (T := E) (fun t ht => List.mem_cons_of_mem _ (List.mem_cons_of_mem _
    (List.mem_append_right _ ht))) hsame
  have hs : ∀ t ∈ s.tables, inRanges t c = inRanges t b := fun t ht =>
    hsame t (List.mem_cons_of_mem _ (List.mem_cons_of_mem _ (List.mem_append_left _ ht)))
  rw [hsame real List.mem_cons_self, hsame scalarTable (List.mem_cons_of_mem _ List.mem_cons_self), h b hb,
    denSet_congr E s c b hE hs]

end Scnr

import ScnrVerif.Proofs.Nfa
import ScnrVerif.Proofs.Basics
/-!
# Correctness of the ε-closure worklist of the NFA model (track A)

`Nfa.epsClosure n x` (the model of `Nfa::epsilon_closure`) contains exactly the states that are
ε-reachable from `x` (`Nfa.EpsReach`), for a well-formed NFA and a start state inside it. The fuel
`states.length + 1` of the model suffices by a pigeonhole argument: the worklist is duplicate-free
and only holds states of the NFA.
-/
namespace Scnr

/-- invariant of `closureLoop` started with `[x]` at index `0` -/
structure ClosureInv (n : Nfa) (x : Nat) (acc : List Nat) (i : Nat) : Prop where
  nodup : acc.Nodup
  reach : ∀ y ∈ acc, n.contains y = true ∧ n.EpsReach x y
  start : x ∈ acc
  closed : ∀ j, j < i → ∀ s, acc[j]? = some s → ∀ t ∈ (n.state s).eps, t ∈ acc

/-- what the result of the worklist satisfies -/
structure ClosureFinal (n : Nfa) (x : Nat) (L : List Nat) : Prop where
  reach : ∀ y ∈ L, n.EpsReach x y
  start : x ∈ L
  closed : ∀ s ∈ L, ∀ t ∈ (n.state s).eps, t ∈ L

theorem ClosureInv.final {n : Nfa} {x : Nat} {acc : List Nat} {i : Nat}
    (hi : ClosureInv n x acc i) (hlen : acc.length ≤ i) : ClosureFinal n x acc := by
  refine ⟨fun y hy => (hi.reach y hy).2, hi.start, ?_⟩
  intro s hs t ht
  obtain ⟨j, hj⟩ := List.mem_iff_getElem?.1 hs
  exact hi.closed j (Nat.lt_of_lt_of_le (List.getElem?_eq_some_iff.mp hj).1 hlen) s hj t ht

theorem ClosureInv.step {n : Nfa} (h : n.WF) {x : Nat} {acc : List Nat} {i s : Nat}
    (hi : ClosureInv n x acc i) (hs : acc[i]? = some s) :
    ClosureInv n x ((n.state s).eps.foldl pushNew acc) (i + 1) := by
  have hsr := hi.reach s (List.mem_iff_getElem?.2 ⟨i, hs⟩)
  have hil : i < acc.length := (List.getElem?_eq_some_iff.mp hs).1
  obtain ⟨e, he⟩ := foldl_pushNew_prefix (n.state s).eps acc
  refine ⟨foldl_pushNew_nodup _ _ hi.nodup, ?_, mem_foldl_pushNew.2 (.inl hi.start), ?_⟩
  · intro y hy
    rcases mem_foldl_pushNew.1 hy with hy | hy
    · exact hi.reach y hy
    · exact ⟨h.eps_in s hsr.1 y hy, epsReach_trans n hsr.2 (.step hsr.1 hy (.refl y))⟩
  · intro j hj s' hs' t ht
    rw [he, List.getElem?_append_left (Nat.lt_of_le_of_lt (Nat.le_of_lt_succ hj) hil)] at hs'
    refine mem_foldl_pushNew.2 ?_
    rcases Nat.lt_succ_iff_lt_or_eq.mp hj with hlt | rfl
    · exact .inl (hi.closed j hlt s' hs' t ht)
    · cases hs.symm.trans hs'
      exact .inr ht

theorem closureLoop_final (n : Nfa) (h : n.WF) (x : Nat) (fuel : Nat) (acc : List Nat) (i : Nat)
    (hi : ClosureInv n x acc i) (hf : n.states.length < fuel + i) :
    ClosureFinal n x (n.closureLoop fuel acc i) := by
  fun_induction Nfa.closureLoop n fuel acc i with
  | case1 acc i =>
    have := nodup_length_le_of_bounded acc n.base n.states.length hi.nodup
      fun y hy => (Nfa.contains_iff n y).mp (hi.reach y hy).1
    exact hi.final (by omega)
  | case2 fuel acc i hn => exact hi.final (List.getElem?_eq_none_iff.mp hn)
  | case3 fuel acc i s hs ih => exact ih (hi.step h hs) (by omega)

theorem closureInv_init (n : Nfa) (x : Nat) (hx : n.contains x = true) : ClosureInv n x [x] 0 := by
  refine ⟨List.pairwise_singleton _ _, fun y hy => ?_, List.mem_singleton.mpr rfl, fun j hj => absurd hj (Nat.not_lt_zero j)⟩
  rw [List.mem_singleton.mp hy]
  exact ⟨hx, .refl x⟩

theorem ClosureFinal.complete {n : Nfa} {x : Nat} {L : List Nat} (hf : ClosureFinal n x L)
    {a b : Nat} (ha : a ∈ L) (hr : n.EpsReach a b) : b ∈ L := by
  induction hr with
  | refl s => exact ha
  | step _ ht _ ih => exact ih (hf.closed _ ha _ ht)

theorem mem_epsClosure (n : Nfa) (h : n.WF) (x : Nat) (hx : n.contains x = true) (y : Nat) :
    y ∈ n.epsClosure x ↔ n.EpsReach x y := by
  have hf := closureLoop_final n h x (n.states.length + 1) [x] 0 (closureInv_init n x hx) (by omega)
  unfold Nfa.epsClosure
  rw [mem_normNat]
  exact ⟨fun hy => hf.reach y hy, fun hr => hf.complete hf.start hr⟩

end Scnr

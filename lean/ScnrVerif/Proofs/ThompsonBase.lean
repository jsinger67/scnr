import ScnrVerif.Proofs.Nfa
/-!
# Runs of the NFA model under maps of states: shifting, sub-automata, first exit
-/
namespace Scnr

/-- every edge of the state leads to a state with `P` -/
structure NState.To (st : NState) (P : Nat → Prop) : Prop where
  eps : ∀ t ∈ st.eps, P t
  trans : ∀ p ∈ st.trans, P p.2

namespace Nfa

theorem Path.map {n m : Nfa} {cm : Nat → Nat → Bool} (f : Nat → Nat)
    (hc : ∀ s, n.contains s = true → m.contains (f s) = true)
    (he : ∀ s, n.contains s = true → ∀ t ∈ (n.state s).eps, f t ∈ (m.state (f s)).eps)
    (ht : ∀ s, n.contains s = true → ∀ p ∈ (n.state s).trans, (p.1, f p.2) ∈ (m.state (f s)).trans)
    {s t : Nat} {w : List Nat} (h : n.Path cm s w t) : m.Path cm (f s) w (f t) := by
  induction h with
  | nil s => exact .nil _
  | eps hs hm _ ih => exact .eps (hc _ hs) (he _ hs _ hm) ih
  | step hs hm hcm _ ih => exact .step (hc _ hs) (ht _ hs _ hm) hcm ih

def shiftState (k : Nat) (s : NState) : NState := ⟨s.eps.map (· + k), s.trans.map fun p => (p.1, p.2 + k)⟩

theorem shift_contains (n : Nfa) (k s : Nat) : (n.shift k).contains (s + k) = n.contains s := by
  rw [Bool.eq_iff_iff, contains_iff, contains_iff]
  simp only [Nfa.shift, List.length_map]
  omega

theorem shift_contains' (n : Nfa) (k s : Nat) (h : (n.shift k).contains s = true) :
    ∃ s', s = s' + k ∧ n.contains s' = true := by
  have h' := h
  rw [contains_iff] at h'
  simp only [Nfa.shift, List.length_map] at h'
  have : s = (s - k) + k := by omega
  refine ⟨s - k, this, ?_⟩
  rw [this, shift_contains] at h; exact h

theorem shift_state (n : Nfa) (k s : Nat) : (n.shift k).state (s + k) = shiftState k (n.state s) := by
  simp only [Nfa.state, Nfa.shift, Nat.add_sub_add_right, List.getD_eq_getElem?_getD, List.getElem?_map]
  cases n.states[s - n.base]? with
  | none => rfl
  | some x => rfl

/-- every edge of `n` leads to a state with `P` (`WF` and `StartFresh` are of this form) -/
def Edges (n : Nfa) (P : Nat → Prop) : Prop := ∀ s, n.contains s = true → (n.state s).To P

theorem Edges.mono {n : Nfa} {P Q : Nat → Prop} (h : n.Edges P) (hpq : ∀ t, P t → Q t) : n.Edges Q :=
  fun s hs => ⟨fun t ht => hpq _ ((h s hs).eps t ht), fun p hp => hpq _ ((h s hs).trans p hp)⟩

theorem shift_edges {n : Nfa} {k : Nat} {P : Nat → Prop} (h : n.Edges fun t => P (t + k)) : (n.shift k).Edges P := by
  intro s hs
  obtain ⟨s', rfl, hs'⟩ := shift_contains' n k s hs
  rw [shift_state]
  refine ⟨fun t ht => ?_, fun p hp => ?_⟩
  · obtain ⟨t', ht', rfl⟩ := List.mem_map.mp ht
    exact (h s' hs').eps t' ht'
  · obtain ⟨p', hp', rfl⟩ := List.mem_map.mp hp
    exact (h s' hs').trans p' hp'

theorem shift_path_aux (n : Nfa) (k : Nat) (cm : Nat → Nat → Bool) (x y : Nat) (w : List Nat) :
    (n.shift k).Path cm (x + k) w (y + k) ↔ n.Path cm x w y := by
  constructor
  · intro h
    have := Path.map (m := n) (· - k) (fun s hs => ?_) (fun s hs t ht => ?_) (fun s hs p hp => ?_) h
    · rwa [Nat.add_sub_cancel, Nat.add_sub_cancel] at this
    · obtain ⟨s', rfl, hs'⟩ := shift_contains' n k s hs
      rwa [Nat.add_sub_cancel]
    · obtain ⟨s', rfl, _⟩ := shift_contains' n k s hs
      rw [shift_state] at ht
      obtain ⟨t', ht', rfl⟩ := List.mem_map.mp ht
      rwa [Nat.add_sub_cancel, Nat.add_sub_cancel]
    · obtain ⟨s', rfl, _⟩ := shift_contains' n k s hs
      rw [shift_state] at hp
      obtain ⟨p', hp', rfl⟩ := List.mem_map.mp hp
      rwa [Nat.add_sub_cancel, Nat.add_sub_cancel]
  · exact Path.map (· + k) (fun s hs => (shift_contains n k s).trans hs)
      (fun s _ t ht => by rw [shift_state]; exact List.mem_map.mpr ⟨t, ht, rfl⟩)
      (fun s _ p hp => by rw [shift_state]; exact List.mem_map.mpr ⟨p, hp, rfl⟩)

end Nfa

theorem shift_path (n : Nfa) (k : Nat) (cm : Nat → Nat → Bool) (x y : Nat) (w : List Nat)
    (hx : n.contains x = true) :
    (n.shift k).Path cm (x + k) w (y + k) ↔ n.Path cm x w y :=
  have _ := hx
  Nfa.shift_path_aux n k cm x y w

theorem shift_accepts (n : Nfa) (k : Nat) (cm : Nat → Nat → Bool) (w : List Nat) :
    (n.shift k).Accepts cm w ↔ n.Accepts cm w :=
  Nfa.shift_path_aux n k cm n.start n.fin w

theorem shift_wf (n : Nfa) (k : Nat) (h : n.WF) : (n.shift k).WF := by
  have he : (n.shift k).Edges fun t => (n.shift k).contains t = true :=
    Nfa.shift_edges fun s hs => ⟨fun t ht => (Nfa.shift_contains n k t).trans (h.eps_in s hs t ht),
      fun p hp => (Nfa.shift_contains n k p.2).trans (h.trans_in s hs p hp)⟩
  refine ⟨?_, ?_, fun s hs => (he s hs).eps, fun s hs => (he s hs).trans, ?_⟩
  · show (n.shift k).contains (n.start + k) = true
    rw [Nfa.shift_contains]; exact h.start_in
  · show (n.shift k).contains (n.fin + k) = true
    rw [Nfa.shift_contains]; exact h.fin_in
  · show ((n.shift k).state (n.fin + k)).eps = [] ∧ ((n.shift k).state (n.fin + k)).trans = []
    rw [Nfa.shift_state]
    simp only [Nfa.shiftState, h.fin_out.1, h.fin_out.2, List.map_nil, and_self]

theorem shift_start_fresh (n : Nfa) (k : Nat) (h : n.StartFresh) : (n.shift k).StartFresh := by
  have he : (n.shift k).Edges (· ≠ n.start + k) :=
    Nfa.shift_edges fun s hs => ⟨fun t ht e => (h s hs).1 (Nat.add_right_cancel e ▸ ht),
      fun p hp e => (h s hs).2 p hp (Nat.add_right_cancel e)⟩
  exact fun s hs => ⟨fun hm => (he s hs).eps _ hm rfl, (he s hs).trans⟩

namespace Nfa

/-- `a` is a sub-automaton of `r`: all states of `a` keep their edges, only `a.fin` may gain edges, and
    only ε-edges (`fin_trans`) -/
structure Ext (r a : Nfa) : Prop where
  cont : ∀ s, a.contains s = true → r.contains s = true
  same : ∀ s, a.contains s = true → s ≠ a.fin → r.state s = a.state s
  fin_trans : (r.state a.fin).trans = []

theorem Ext.embed {r a : Nfa} {cm : Nat → Nat → Bool} (hx : Ext r a) (hwf : a.WF) {s t : Nat} {w : List Nat}
    (h : a.Path cm s w t) : r.Path cm s w t := by
  refine Path.map id hx.cont (fun s hs t ht => ?_) (fun s hs p hp => ?_) h
  · by_cases hf : s = a.fin
    · rw [hf, hwf.fin_out.1] at ht; cases ht
    · rw [id, hx.same s hs hf]; exact ht
  · by_cases hf : s = a.fin
    · rw [hf, hwf.fin_out.2] at hp; cases hp
    · rw [id, hx.same s hs hf]; exact hp

theorem Ext.exit {r a : Nfa} {cm : Nat → Nat → Bool} (hx : Ext r a) (hwf : a.WF) {s t : Nat} {w : List Nat}
    (hs : a.contains s = true) (h : r.Path cm s w t) :
    a.Path cm s w t ∨ ∃ u v x, w = u ++ v ∧ a.Path cm s u a.fin ∧ x ∈ (r.state a.fin).eps ∧ r.Path cm x v t := by
  induction h with
  | nil s => exact .inl (.nil _)
  | @eps s t u w hc he hp ih =>
    by_cases hf : s = a.fin
    · subst hf
      exact .inr ⟨[], w, t, rfl, .nil _, he, hp⟩
    · rw [hx.same _ hs hf] at he
      rcases ih (hwf.eps_in _ hs _ he) with h | ⟨u', v', x, rfl, h1, h2, h3⟩
      · exact .inl (.eps hs he h)
      · exact .inr ⟨u', v', x, rfl, .eps hs he h1, h2, h3⟩
  | @step s t u c cc w hc ht hcm hp ih =>
    by_cases hf : s = a.fin
    · subst hf; rw [hx.fin_trans] at ht; cases ht
    · rw [hx.same _ hs hf] at ht
      rcases ih (hwf.trans_in _ hs _ ht) with h | ⟨u', v', x, rfl, h1, h2, h3⟩
      · exact .inl (.step hs ht hcm h)
      · exact .inr ⟨c :: u', v', x, rfl, .step hs ht hcm h1, h2, h3⟩

theorem Ext.closed {r a : Nfa} {cm : Nat → Nat → Bool} (hx : Ext r a) (hwf : a.WF)
    (hfe : (r.state a.fin).eps = []) {s t : Nat} {w : List Nat}
    (hs : a.contains s = true) (h : r.Path cm s w t) : a.Path cm s w t := by
  rcases hx.exit hwf hs h with h | ⟨_, _, x, _, _, h2, _⟩
  · exact h
  · rw [hfe] at h2; cases h2

variable {r a : Nfa} {cm : Nat → Nat → Bool} {s t e : Nat} {w : List Nat}

theorem Ext.exit_iff (hx : Ext r a) (hwf : a.WF) (hfin : r.state a.fin = ⟨[e], []⟩) (he : r.state e = ⟨[], []⟩)
    (hne : a.contains e = false) (hs : a.contains s = true) : r.Path cm s w e ↔ a.Path cm s w a.fin := by
  constructor
  · intro h
    rcases hx.exit hwf hs h with h | ⟨u, v, x, rfl, h1, h2, h3⟩
    · have := Path.contains_end hwf hs h; rw [hne] at this; cases this
    · rw [hfin] at h2
      rw [List.mem_singleton.mp h2] at h3
      obtain ⟨rfl, _⟩ := Path.of_no_edges (by rw [he]) (by rw [he]) h3
      rw [List.append_nil]; exact h1
  · intro h
    have := Path.trans (hx.embed hwf h)
      (.eps (hx.cont _ hwf.fin_in) (by rw [hfin]; exact List.mem_singleton.mpr rfl) (.nil _))
    rwa [List.append_nil] at this

theorem Path.from_eps_iff {n : Nfa} {L : List Nat} (hc : n.contains s = true) (hst : n.state s = ⟨L, []⟩)
    (hne : s ≠ t) : n.Path cm s w t ↔ ∃ x ∈ L, n.Path cm x w t := by
  constructor
  · intro h
    cases h with
    | nil => exact absurd rfl hne
    | eps _ hm hp => rw [hst] at hm; exact ⟨_, hm, hp⟩
    | step _ hm _ _ => rw [hst] at hm; cases hm
  · rintro ⟨x, hx, hp⟩
    exact .eps hc (by rw [hst]; exact hx) hp

/-- the loop of `+` and `*`. The endpoint `t` is kept general for the induction over the run. -/
theorem Ext.loop {R : Re} (hx : Ext r a) (hwf : a.WF) (hlang : ∀ w, a.Accepts cm w → Matches cm R w)
    (hfin : r.state a.fin = ⟨[e, a.start], []⟩) (he : r.state e = ⟨[], []⟩) (hne : a.contains e = false)
    (hs : a.contains s = true) (h : r.Path cm s w t) (ht : t = e) :
    ∃ u v, w = u ++ v ∧ a.Path cm s u a.fin ∧ Matches cm (.star R) v := by
  induction h with
  | nil s => subst ht; rw [hs] at hne; cases hne
  | @eps s t u w hc hm hp ih =>
    by_cases hf : s = a.fin
    · subst hf
      -- at `a.fin` the run leaves to `e` and is over, or returns to `a.start` for one more iteration
      rw [hfin] at hm
      rcases List.mem_cons.mp hm with rfl | hm
      · subst ht
        obtain ⟨rfl, _⟩ := Path.of_no_edges (by rw [he]) (by rw [he]) hp
        exact ⟨[], [], rfl, .nil _, .starNil⟩
      · rw [List.mem_singleton.mp hm] at ih
        obtain ⟨u', v', rfl, h1, h2⟩ := ih hwf.start_in ht
        exact ⟨[], u' ++ v', rfl, .nil _, .starCons (hlang _ h1) h2⟩
    · rw [hx.same _ hs hf] at hm
      obtain ⟨u', v', rfl, h1, h2⟩ := ih (hwf.eps_in _ hs _ hm) ht
      exact ⟨u', v', rfl, .eps hs hm h1, h2⟩
  | @step s t u c cc w hc htr hcm hp ih =>
    by_cases hf : s = a.fin
    · subst hf; rw [hx.fin_trans] at htr; cases htr
    · rw [hx.same _ hs hf] at htr
      obtain ⟨u', v', rfl, h1, h2⟩ := ih (hwf.trans_in _ hs _ htr) ht
      exact ⟨c :: u', v', rfl, .step hs htr hcm h1, h2⟩

theorem Ext.loop_conv {R : Re} (hx : Ext r a) (hwf : a.WF) (hlang : ∀ w, Matches cm R w → a.Accepts cm w)
    (hfin : r.state a.fin = ⟨[e, a.start], []⟩) (h : Matches cm (.star R) w) : r.Path cm a.fin w e := by
  generalize hr : Re.star R = R' at h
  induction h with
  | eps => cases hr
  | cls _ => cases hr
  | cat _ _ _ _ => cases hr
  | altL _ _ => cases hr
  | altR _ _ => cases hr
  | starNil => exact .eps (hx.cont _ hwf.fin_in) (by rw [hfin]; exact List.mem_cons_self) (.nil _)
  | @starCons a' u v hu _ _ ih2 =>
    cases hr
    exact .eps (hx.cont _ hwf.fin_in) (by rw [hfin]; exact List.mem_cons_of_mem _ List.mem_cons_self)
      (Path.trans (hx.embed hwf (hlang _ hu)) (ih2 rfl))

theorem Ext.loop_iff {R : Re} (hx : Ext r a) (hwf : a.WF) (hlang : ∀ w, a.Accepts cm w ↔ Matches cm R w)
    (hfin : r.state a.fin = ⟨[e, a.start], []⟩) (he : r.state e = ⟨[], []⟩) (hne : a.contains e = false)
    (hs : a.contains s = true) :
    r.Path cm s w e ↔ ∃ u v, w = u ++ v ∧ a.Path cm s u a.fin ∧ Matches cm (.star R) v := by
  constructor
  · intro h
    exact hx.loop hwf (fun w => (hlang w).mp) hfin he hne hs h rfl
  · rintro ⟨u, v, rfl, h1, h2⟩
    exact Path.trans (hx.embed hwf h1) (hx.loop_conv hwf (fun w => (hlang w).mpr) hfin h2)

end Nfa

end Scnr

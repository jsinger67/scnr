import ScnrVerif.Model.FindFrom
/-!
# Candidate selection of `find_from`

`loop_spec`: the result of the character loop is a genuine candidate (soundness: span and token
type come from the same candidate) and dominates every candidate (completeness), for every
automaton, class function, lookahead function, state list and input.
-/
namespace Scnr

/-- `k` is a candidate of the scan of `w` from states `S` with index `i` of the first character:
    defined along the loop. -/
def CandAt (A : Dfa) (cm : Nat → Nat → Bool) (la : Nat → List Nat → Option Nat) :
    Nat → List Nat → List Nat → Cand → Prop
  | _, [], _, _ => False
  | i, c :: w, S, k =>
    (∃ nx ∈ hits A cm c S, A.isEnd nx = true ∧ ∃ l, la (A.tidOf nx) w = some l ∧
        k = ⟨i + utf8Len c, i + utf8Len c + l, A.tidOf nx⟩)
    ∨ CandAt A cm la (i + utf8Len c) w (stepStates A cm c S) k

/-- `b` dominates `k`: larger extent, or equal extent and priority index not larger. -/
def Dom (A : Dfa) (b : Best) (k : Cand) : Prop :=
  ∃ b', b = some b' ∧ (k.extent < b'.extent ∨ (b'.extent = k.extent ∧ A.prioOf b'.tid ≤ A.prioOf k.tid))

theorem better_some (A : Dfa) (ext tid : Nat) (b : Cand) :
    better A ext tid (some b) = true ↔
      b.extent < ext ∨ (ext = b.extent ∧ A.prioOf tid < A.prioOf b.tid) := by
  simp only [better, Bool.or_eq_true, Bool.and_eq_true, decide_eq_true_eq, beq_iff_eq]

theorem dom_refl (A : Dfa) (k : Cand) : Dom A (some k) k :=
  ⟨k, rfl, Or.inr ⟨rfl, Nat.le_refl _⟩⟩

theorem dom_of_better {A : Dfa} {best : Best} {k : Cand} {e ext tid : Nat}
    (hb : better A ext tid best = true) (hd : Dom A best k) : Dom A (some ⟨e, ext, tid⟩) k := by
  obtain ⟨b, rfl, hd⟩ := hd
  rw [better_some] at hb
  refine ⟨_, rfl, ?_⟩
  show k.extent < ext ∨ (ext = k.extent ∧ A.prioOf tid ≤ A.prioOf k.tid)
  omega

theorem dom_of_not_better {A : Dfa} {best : Best} {e ext tid : Nat}
    (hb : ¬ better A ext tid best = true) : Dom A best ⟨e, ext, tid⟩ := by
  cases best with
  | none => exact absurd rfl hb
  | some b =>
    rw [better_some] at hb
    refine ⟨b, rfl, ?_⟩
    show ext < b.extent ∨ (b.extent = ext ∧ A.prioOf b.tid ≤ A.prioOf tid)
    omega

/-! What `loop_spec` states of the loop holds in the same form of a single update and of the fold over
the hits of one character, and composes (`sel_trans`). -/

/-- `r` is selected from the incoming best `b` and the candidates `C`: it dominates whatever `b`
    dominates and every candidate, and it is `b` or one of the candidates. -/
def Sel (A : Dfa) (C : Cand → Prop) (b r : Best) : Prop :=
  (∀ k, (Dom A b k ∨ C k) → Dom A r k) ∧ (r = b ∨ ∃ k, r = some k ∧ C k)

theorem sel_refl {A : Dfa} {C : Cand → Prop} {b : Best} (hC : ∀ k, ¬ C k) : Sel A C b b :=
  ⟨fun k h => h.elim id fun hc => (hC k hc).elim, Or.inl rfl⟩

theorem sel_trans {A : Dfa} {C C₁ C₂ : Cand → Prop} {b r s : Best} (h₁ : Sel A C₁ b r)
    (h₂ : Sel A C₂ r s) (hC : ∀ k, C k ↔ C₁ k ∨ C₂ k) : Sel A C b s := by
  constructor
  · intro k h
    apply h₂.1
    rcases h with h | h
    · exact Or.inl (h₁.1 k (Or.inl h))
    · exact ((hC k).mp h).imp (fun h => h₁.1 k (Or.inr h)) id
  · rcases h₂.2 with rfl | ⟨k, hk, hc⟩
    · rcases h₁.2 with h | ⟨k, hk, hc⟩
      · exact Or.inl h
      · exact Or.inr ⟨k, hk, (hC k).mpr (Or.inl hc)⟩
    · exact Or.inr ⟨k, hk, (hC k).mpr (Or.inr hc)⟩

theorem upd_hit {A : Dfa} {la : Nat → Option Nat} {e : Nat} {best : Best} {nx l : Nat}
    (he : A.isEnd nx = true) (hl : la (A.tidOf nx) = some l) :
    upd A la e best nx =
      if better A (e + l) (A.tidOf nx) best then some ⟨e, e + l, A.tidOf nx⟩ else best := by
  rw [upd, if_pos he, hl]

theorem upd_sel (A : Dfa) (la : Nat → Option Nat) (e : Nat) (best : Best) (nx : Nat) :
    Sel A (fun k => A.isEnd nx = true ∧ ∃ l, la (A.tidOf nx) = some l ∧ k = ⟨e, e + l, A.tidOf nx⟩)
      best (upd A la e best nx) := by
  by_cases he : A.isEnd nx = true
  · cases hl : la (A.tidOf nx) with
    | none =>
      rw [upd, if_pos he, hl]
      refine sel_refl ?_
      rintro k ⟨_, l, hl', _⟩
      cases hl'
    | some l =>
      rw [upd_hit he hl]
      by_cases hb : better A (e + l) (A.tidOf nx) best = true
      · rw [if_pos hb]
        refine ⟨?_, Or.inr ⟨_, rfl, he, l, rfl, rfl⟩⟩
        rintro k (h | ⟨_, l', hl', rfl⟩)
        · exact dom_of_better hb h
        · cases Option.some.inj hl'
          exact dom_refl A _
      · rw [if_neg hb]
        refine ⟨?_, Or.inl rfl⟩
        rintro k (h | ⟨_, l', hl', rfl⟩)
        · exact h
        · cases Option.some.inj hl'
          exact dom_of_not_better hb
  · rw [upd, if_neg he]
    exact sel_refl fun k h => he h.1

theorem foldl_upd_sel (A : Dfa) (la : Nat → Option Nat) (e : Nat) (H : List Nat) (best : Best) :
    Sel A (fun k => ∃ nx ∈ H, A.isEnd nx = true ∧ ∃ l, la (A.tidOf nx) = some l ∧
      k = ⟨e, e + l, A.tidOf nx⟩) best (H.foldl (upd A la e) best) := by
  induction H generalizing best with
  | nil =>
    refine sel_refl ?_
    rintro k ⟨nx, hm, _⟩
    cases hm
  | cons x t ih =>
    exact sel_trans (upd_sel A la e best x) (ih _) fun k => by simp only [List.mem_cons, exists_eq_or_imp]

theorem loop_nil_states (A : Dfa) (cm) (la : Nat → List Nat → Option Nat) (i : Nat) (w : List Nat)
    (b : Best) : loop A cm la i w [] b = b := by
  cases w <;> rfl

/-- The early exit on an empty state list is only a shortcut: the loop would change nothing. -/
theorem loop_cons (A : Dfa) (cm) (la : Nat → List Nat → Option Nat) (i c : Nat) (w S : List Nat)
    (b : Best) :
    loop A cm la i (c :: w) S b =
      loop A cm la (i + utf8Len c) w (stepStates A cm c S)
        ((hits A cm c S).foldl (upd A (fun t => la t w) (i + utf8Len c)) b) := by
  rw [loop]
  split
  · next h => rw [List.isEmpty_iff.mp h, loop_nil_states]
  · rfl

theorem loop_spec (A : Dfa) (cm : Nat → Nat → Bool) (la : Nat → List Nat → Option Nat)
    (i : Nat) (w : List Nat) (S : List Nat) (b : Best) :
    (∀ k, (Dom A b k ∨ CandAt A cm la i w S k) → Dom A (loop A cm la i w S b) k) ∧
    (loop A cm la i w S b = b ∨ ∃ k, loop A cm la i w S b = some k ∧ CandAt A cm la i w S k) := by
  show Sel A (CandAt A cm la i w S) b (loop A cm la i w S b)
  induction w generalizing i S b with
  | nil => exact sel_refl fun k h => h
  | cons c w ih =>
    rw [loop_cons]
    exact sel_trans (foldl_upd_sel A (fun t => la t w) (i + utf8Len c) (hits A cm c S) b) (ih _ _ _)
      fun k => Iff.rfl

theorem loop_best (A : Dfa) (cm : Nat → Nat → Bool) (la : Nat → List Nat → Option Nat)
    (i : Nat) (w : List Nat) (S : List Nat) :
    (loop A cm la i w S none = none ∧ ∀ k, ¬ CandAt A cm la i w S k) ∨
    ∃ b, loop A cm la i w S none = some b ∧ CandAt A cm la i w S b ∧
      ∀ k, CandAt A cm la i w S k →
        k.extent < b.extent ∨ (b.extent = k.extent ∧ A.prioOf b.tid ≤ A.prioOf k.tid) := by
  obtain ⟨h1, h2⟩ := loop_spec A cm la i w S none
  rcases h2 with h | ⟨b, hb, hc⟩
  · refine Or.inl ⟨h, fun k hk => ?_⟩
    obtain ⟨b', hb', _⟩ := h1 k (Or.inr hk)
    rw [h] at hb'
    cases hb'
  · refine Or.inr ⟨b, hb, hc, fun k hk => ?_⟩
    obtain ⟨b', hb', hd⟩ := h1 k (Or.inr hk)
    rw [hb] at hb'
    exact Option.some.inj hb' ▸ hd

end Scnr

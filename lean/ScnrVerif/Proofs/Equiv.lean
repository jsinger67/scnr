import ScnrVerif.Proofs.Regex
import ScnrVerif.Proofs.Basics
/-!
# Soundness of the equivalence checker

`closed_sound`: for deterministic acceptor systems whose steps only depend on the membership vector
of the character, a candidate set closed under the representatives with agreeing acceptance proves
agreement of acceptance on every **non-empty** word; the empty word is the separate `initToo`
conjunct of `closedCheck`/`closedCheckH`. Instances: the dumped automaton (`dfaSys`, whose
acceptance is `acceptsTid`) and the pattern list (`reSys`, whose acceptance is `Matches`).
-/
namespace Scnr

/-- Propositional content of `closedCheck`/`closedCheckH`. -/
structure Closed {σ τ : Type} (X : Sys σ) (Y : Sys τ) (reps : List Nat) (x0 : σ) (y0 : τ)
    (V : List (σ × τ)) : Prop where
  init : ∀ r ∈ reps, (X.step r x0, Y.step r y0) ∈ V
  acc : ∀ p ∈ V, X.acc p.1 = Y.acc p.2
  step : ∀ p ∈ V, ∀ r ∈ reps, (X.step r p.1, Y.step r p.2) ∈ V

/-- Every character behaves like one of the representatives, in both systems. -/
def RepsCover {σ τ : Type} (X : Sys σ) (Y : Sys τ) (reps : List Nat) : Prop :=
  ∀ c, ∃ r ∈ reps, (∀ s, X.step c s = X.step r s) ∧ (∀ s, Y.step c s = Y.step r s)

theorem closed_run {σ τ : Type} {X : Sys σ} {Y : Sys τ} {reps x0 y0 V} (hc : Closed X Y reps x0 y0 V)
    (hr : RepsCover X Y reps) (p : σ × τ) (hp : p ∈ V) (w : List Nat) :
    (X.run p.1 w, Y.run p.2 w) ∈ V := by
  induction w generalizing p with
  | nil => exact hp
  | cons c w ih =>
    obtain ⟨r, hrm, h1, h2⟩ := hr c
    simp only [Sys.run]
    rw [h1, h2]
    exact ih (X.step r p.1, Y.step r p.2) (hc.step p hp r hrm)

theorem closed_sound {σ τ : Type} {X : Sys σ} {Y : Sys τ} {reps x0 y0 V} (hc : Closed X Y reps x0 y0 V)
    (hr : RepsCover X Y reps) (w : List Nat) (hw : w ≠ []) :
    X.acc (X.run x0 w) = Y.acc (Y.run y0 w) := by
  cases w with
  | nil => exact absurd rfl hw
  | cons c w =>
    obtain ⟨r, hrm, h1, h2⟩ := hr c
    simp only [Sys.run]
    rw [h1, h2]
    exact hc.acc _ (closed_run hc hr _ (hc.init r hrm) w)

theorem closedCheck_closed {σ τ : Type} [DecidableEq σ] [DecidableEq τ] {X : Sys σ} {Y : Sys τ}
    {reps x0 y0 initToo V} (h : closedCheck X Y reps x0 y0 initToo V = true) :
    Closed X Y reps x0 y0 V ∧ (initToo = true → X.acc x0 = Y.acc y0) := by
  unfold closedCheck at h
  simp only [Bool.and_eq_true, List.all_eq_true, List.contains_iff_mem, beq_iff_eq, Bool.or_eq_true,
    Bool.not_eq_true'] at h
  obtain ⟨⟨h1, h2⟩, h3⟩ := h
  exact ⟨⟨h1, fun p hp => (h2 p hp).1, fun p hp => (h2 p hp).2⟩, fun hi => h3.resolve_left (by simp [hi])⟩

theorem all_contains_of_hinted {α : Type} [BEq α] [LawfulBEq α] {reps : List Nat} {V : Array α} {hint : Array Nat}
    {f : Nat → α} (h : (reps.zipIdx.all fun rk => V[hint.getD rk.2 0]? == some (f rk.1)) = true) :
    (reps.all fun r => V.toList.contains (f r)) = true := by
  rw [List.all_eq_true]
  intro r hr
  obtain ⟨k, hk, rfl⟩ := List.getElem_of_mem hr
  have := List.all_eq_true.mp h (reps[k], k) (List.mem_zipIdx_iff_getElem?.mpr (List.getElem?_eq_getElem hk))
  exact List.contains_iff_mem.mpr (Array.mem_toList_iff.mpr (Array.mem_of_getElem? (beq_iff_eq.mp this)))

/-- The hints are not trusted: a candidate array that passes the hinted check passes the list check. -/
theorem closedCheck_of_hinted {σ τ : Type} [DecidableEq σ] [DecidableEq τ] {X : Sys σ} {Y : Sys τ}
    {reps x0 y0 initToo} {V : Array (σ × τ)} {h0 : Array Nat} {hs : Array (Array Nat)}
    (h : closedCheckH X Y reps x0 y0 initToo V h0 hs = true) :
    closedCheck X Y reps x0 y0 initToo V.toList = true := by
  unfold closedCheckH at h
  unfold closedCheck
  rw [Bool.and_eq_true, Bool.and_eq_true] at h ⊢
  refine ⟨⟨all_contains_of_hinted h.1.1, List.all_eq_true.mpr fun p hp => ?_⟩, h.2⟩
  obtain ⟨i, hi, rfl⟩ := List.getElem_of_mem hp
  have hi' : i < V.size := by simpa using hi
  have := List.all_eq_true.mp h.1.2 i (List.mem_range.mpr hi')
  rw [Array.getElem?_eq_getElem hi', Bool.and_eq_true] at this
  exact Bool.and_eq_true_iff.mpr ⟨this.1, all_contains_of_hinted this.2⟩

theorem closedCheckH_closed {σ τ : Type} [DecidableEq σ] [DecidableEq τ] {X : Sys σ} {Y : Sys τ}
    {reps x0 y0 initToo} {V : Array (σ × τ)} {h0 : Array Nat} {hs : Array (Array Nat)}
    (h : closedCheckH X Y reps x0 y0 initToo V h0 hs = true) :
    Closed X Y reps x0 y0 V.toList ∧ (initToo = true → X.acc x0 = Y.acc y0) :=
  closedCheck_closed (closedCheck_of_hinted h)

theorem closedCheckH_sound {σ τ : Type} [DecidableEq σ] [DecidableEq τ] {X : Sys σ} {Y : Sys τ}
    {reps x0 y0 initToo} {V : Array (σ × τ)} {h0 : Array Nat} {hs : Array (Array Nat)}
    (h : closedCheckH X Y reps x0 y0 initToo V h0 hs = true) (hr : RepsCover X Y reps) (w : List Nat)
    (hw : w ≠ [] ∨ initToo = true) : X.acc (X.run x0 w) = Y.acc (Y.run y0 w) := by
  obtain ⟨hc, hi⟩ := closedCheckH_closed h
  by_cases hn : w = []
  · subst hn
    exact hi (hw.resolve_left (· rfl))
  · exact closed_sound hc hr w hn

theorem dfaSys_run_mem (A : Dfa) (cm) (S : List Nat) (w : List Nat) (y : Nat) :
    y ∈ (dfaSys A cm).run S w ↔ y ∈ reach A cm S w := by
  induction w generalizing S with
  | nil => exact Iff.rfl
  | cons c w ih =>
    simp only [Sys.run, reach]
    rw [ih]
    apply reach_congr
    intro x
    simp only [dfaSys]
    exact mem_normNat x _

theorem mem_dfaSys_acc (A : Dfa) (cm) (S : List Nat) (t : Nat) :
    t ∈ (dfaSys A cm).acc S ↔ ∃ s ∈ S, A.isEnd s = true ∧ A.tidOf s = t := by
  simp only [dfaSys, mem_normNat, List.mem_map, List.mem_filter, and_assoc]

theorem dfaSys_acc_run (A : Dfa) (cm) (w : List Nat) (t : Nat) :
    t ∈ (dfaSys A cm).acc ((dfaSys A cm).run [0] w) ↔ acceptsTid A cm w t := by
  rw [mem_dfaSys_acc]
  exact exists_congr fun s => and_congr_left' (dfaSys_run_mem A cm [0] w s)

theorem dfaSys_step_congr (A : Dfa) (cm) {c d : Nat} (h : ∀ id, cm id c = cm id d) (S : List Nat) :
    (dfaSys A cm).step c S = (dfaSys A cm).step d S := by
  simp only [dfaSys, stepStates, hits]
  have : hitsOf A cm c = hitsOf A cm d := by
    funext s
    simp only [hitsOf, h]
  rw [this]

theorem mem_reSys_step (cm) (c : Nat) (D : List (Nat × Re)) (t : Nat) (r' : Re) :
    (t, r') ∈ (reSys cm).step c D ↔ ∃ r, (t, r) ∈ D ∧ r' ∈ pderiv cm c r := by
  simp only [reSys, mem_normP, List.mem_flatMap, List.mem_map]
  constructor
  · rintro ⟨p, hp, q, hq, heq⟩
    simp only [Prod.mk.injEq] at heq
    obtain ⟨rfl, rfl⟩ := heq
    exact ⟨p.2, hp, hq⟩
  · rintro ⟨r, hr, hq⟩
    exact ⟨(t, r), hr, r', hq, rfl⟩

theorem reSys_acc_run (cm) (D : List (Nat × Re)) (w : List Nat) (t : Nat) :
    t ∈ (reSys cm).acc ((reSys cm).run D w) ↔ ∃ r, (t, r) ∈ D ∧ Matches cm r w := by
  induction w generalizing D with
  | nil =>
    simp only [Sys.run, reSys, mem_normNat, List.mem_map, List.mem_filter]
    constructor
    · rintro ⟨p, ⟨hp, hn⟩, rfl⟩; exact ⟨p.2, hp, nullable_iff.mp hn⟩
    · rintro ⟨r, hr, hm⟩; exact ⟨(t, r), ⟨hr, nullable_iff.mpr hm⟩, rfl⟩
  | cons c w ih =>
    simp only [Sys.run]
    rw [ih]
    constructor
    · rintro ⟨r', hr', hm⟩
      obtain ⟨r, hr, hd⟩ := (mem_reSys_step cm c D t r').mp hr'
      exact ⟨r, hr, matches_cons_iff.mpr ⟨r', hd, hm⟩⟩
    · rintro ⟨r, hr, hm⟩
      obtain ⟨r', hd, hm'⟩ := matches_cons_iff.mp hm
      exact ⟨r', (mem_reSys_step cm c D t r').mpr ⟨r, hr, hd⟩, hm'⟩

theorem reSys_step_congr (cm) {c d : Nat} (h : ∀ id, cm id c = cm id d) (D : List (Nat × Re)) :
    (reSys cm).step c D = (reSys cm).step d D := by
  simp only [reSys, pderiv_congr h]

theorem mem_boundariesOf {Ts : List (List (Nat × Nat))} {t : List (Nat × Nat)} {p : Nat × Nat}
    (ht : t ∈ Ts) (hp : p ∈ t) : p.1 ∈ boundariesOf Ts ∧ p.2 + 1 ∈ boundariesOf Ts :=
  have h : ∀ x ∈ [p.1, p.2 + 1], x ∈ boundariesOf Ts := fun _ hx =>
    List.mem_cons_of_mem _ (List.mem_flatMap.mpr ⟨t, ht, List.mem_flatMap.mpr ⟨p, hp, hx⟩⟩)
  ⟨h _ List.mem_cons_self, h _ (List.mem_cons_of_mem _ List.mem_cons_self)⟩

/-- Some boundary has the same membership vector as the character: walking down from `c`, the
    vector stays the same until a boundary is met (`0` is one). -/
theorem boundaries_cover (Ts : List (List (Nat × Nat))) (c : Nat) :
    ∃ b ∈ boundariesOf Ts, sigOf Ts c = sigOf Ts b := by
  induction c with
  | zero => exact ⟨0, List.mem_cons_self, rfl⟩
  | succ c ih =>
    by_cases hc : c + 1 ∈ boundariesOf Ts
    · exact ⟨c + 1, hc, rfl⟩
    · obtain ⟨b, hb, h⟩ := ih
      refine ⟨b, hb, Eq.trans (List.map_congr_left fun t ht => inRanges_succ fun p hp => ?_) h⟩
      exact ⟨fun e => hc (e ▸ (mem_boundariesOf ht hp).1), fun e => hc (e ▸ (mem_boundariesOf ht hp).2)⟩

theorem dedupSig_cover (l acc : List (Nat × List Bool)) :
    ∀ x, x ∈ l ∨ x ∈ acc → ∃ y ∈ dedupSig l acc, y.2 = x.2 := by
  fun_induction dedupSig l acc with
  | case1 acc => exact fun x hx => ⟨x, hx.resolve_left (by simp), rfl⟩
  | case2 r rs acc h ih =>
    intro x hx
    rw [List.mem_cons, or_assoc] at hx
    rcases hx with rfl | hx
    · obtain ⟨a, ha, hae⟩ := List.any_eq_true.mp h
      obtain ⟨y, hy, hye⟩ := ih a (Or.inr ha)
      exact ⟨y, hy, hye.trans (beq_iff_eq.mp hae)⟩
    · exact ih x hx
  | case3 r rs acc h ih =>
    intro x hx
    rw [List.mem_cons, or_assoc, or_left_comm, ← List.mem_cons] at hx
    exact ih x hx

theorem dedupSig_sub (l acc : List (Nat × List Bool)) (x : Nat × List Bool) (hx : x ∈ dedupSig l acc) :
    x ∈ l ∨ x ∈ acc := by
  fun_induction dedupSig l acc with
  | case1 acc => exact Or.inr hx
  | case2 r rs acc h ih => exact (ih hx).imp_left (List.mem_cons_of_mem _)
  | case3 r rs acc h ih =>
    rw [List.mem_cons, or_assoc, or_left_comm, ← List.mem_cons]
    exact ih hx

theorem mkReps_cover (Ts : List (List (Nat × Nat))) (c : Nat) :
    ∃ r ∈ mkReps Ts, ∀ t ∈ Ts, inRanges t c = inRanges t r := by
  obtain ⟨b, hb, hsig⟩ := boundaries_cover Ts c
  obtain ⟨y, hy, hye⟩ := dedupSig_cover ((boundariesOf Ts).map fun b => (b, sigOf Ts b)) []
    (b, sigOf Ts b) (Or.inl (List.mem_map.mpr ⟨b, hb, rfl⟩))
  obtain ⟨b', _, rfl⟩ := List.mem_map.mp ((dedupSig_sub _ [] y hy).resolve_right (by simp))
  exact ⟨b', List.mem_map.mpr ⟨_, hy, rfl⟩, List.map_inj_left.mp (hsig.trans hye.symm)⟩

theorem cmT_congr_of_tables {Ts T : List (List (Nat × Nat))} (hsub : ∀ t ∈ T, t ∈ Ts) {c r : Nat}
    (h : ∀ t ∈ Ts, inRanges t c = inRanges t r) (id : Nat) : cmT T id c = cmT T id r := by
  unfold cmT
  rcases getD_eq_default_or_mem T id [] with hd | hm
  · rw [hd]
    rfl
  · exact h _ (hsub _ hm)

theorem repsCover_of_tables {σ τ : Type} {X : Sys σ} {Y : Sys τ} {Ts TX TY : List (List (Nat × Nat))}
    (hTX : ∀ t ∈ TX, t ∈ Ts) (hTY : ∀ t ∈ TY, t ∈ Ts)
    (hX : ∀ c d, (∀ id, cmT TX id c = cmT TX id d) → ∀ s, X.step c s = X.step d s)
    (hY : ∀ c d, (∀ id, cmT TY id c = cmT TY id d) → ∀ s, Y.step c s = Y.step d s) :
    RepsCover X Y (mkReps Ts) := by
  intro c
  obtain ⟨r, hr, h⟩ := mkReps_cover Ts c
  exact ⟨r, hr, hX c r (cmT_congr_of_tables hTX h), hY c r (cmT_congr_of_tables hTY h)⟩

end Scnr

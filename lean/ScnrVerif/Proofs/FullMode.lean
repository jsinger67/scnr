import ScnrVerif.Proofs.CompileCorrect
import ScnrVerif.Proofs.SpecFind
/-!
# A compiled mode with lookaheads against the pattern-level trailing-context rule (track A, C04)

`compileFull ps` is the model of `CompiledDfa::try_from_patterns`. The candidates of the declarative
automaton-level specification `specCands` are exactly the pattern-level candidates `PCand`: a
non-empty prefix matched by a pattern whose lookahead condition holds on the rest; hence the model
of `find_from` on a compiled mode follows the pattern-level rule `PFindOK`. The suffix `_full` in a
name: on a mode compiled by `compileFull`.
-/
namespace Scnr

/-- the lookahead condition on the rest `v`, with the lookahead length `l` (bytes): positive: the
    longest non-empty prefix of `v` the lookahead pattern matches; negative: none matches, `l = 0` -/
def LaHolds (cm : Nat → Nat → Bool) (la : Option (Bool × CAst)) (v : List Nat) (l : Nat) : Prop :=
  match la with
  | none => l = 0
  | some (true, a) =>
    (∃ u x, u ≠ [] ∧ v = u ++ x ∧ Matches cm a.toRe u ∧ l = bytesLen u) ∧
      ∀ u x, u ≠ [] → v = u ++ x → Matches cm a.toRe u → bytesLen u ≤ l
  | some (false, a) => l = 0 ∧ ¬ ∃ u x, u ≠ [] ∧ v = u ++ x ∧ Matches cm a.toRe u

/-- pattern-level candidate of a scan of `w` starting at byte `i` -/
def PCand (cm : Nat → Nat → Bool) (ps : List CPat) (i : Nat) (w : List Nat) (k : Cand) : Prop :=
  ∃ u v q, u ≠ [] ∧ w = u ++ v ∧ q ∈ ps ∧ q.tid = k.tid ∧ Matches cm q.ast.toRe u ∧
    k.endPos = i + bytesLen u ∧ ∃ l, LaHolds cm q.la v l ∧ k.extent = i + bytesLen u + l

theorem lookup_filterMap_of_nodup {α β : Type} (key : α → Nat) (g : α → Option β) (ps : List α)
    (hn : (ps.map key).Nodup) (q : α) (hq : q ∈ ps) :
    (ps.filterMap fun p => (g p).map fun b => (key p, b)).lookup (key q) = g q := by
  induction ps with
  | nil => cases hq
  | cons p r ih =>
    obtain ⟨hp, hr⟩ := List.nodup_cons.mp hn
    rcases List.mem_cons.mp hq with rfl | hq'
    · have hnone : (r.filterMap fun p => (g p).map fun b => (key p, b)).lookup (key q) = none := by
        refine List.lookup_eq_none_iff.mpr fun x hx => ?_
        obtain ⟨y, hy, hxy⟩ := List.mem_filterMap.mp hx
        obtain ⟨b, _, rfl⟩ := Option.map_eq_some_iff.mp hxy
        exact bne_iff_ne.mpr fun h => hp (h ▸ List.mem_map_of_mem hy)
      cases hg : g q with
      | none => rw [List.filterMap_cons_none (by rw [hg]; rfl), hnone]
      | some b => rw [List.filterMap_cons_some (by rw [hg]; rfl), List.lookup_cons_self]
    · have hne : (key q == key p) = false :=
        beq_false_of_ne fun h => hp (h ▸ List.mem_map_of_mem hq')
      cases hg : g p with
      | none =>
        rw [List.filterMap_cons_none (by rw [hg]; rfl)]
        exact ih hr hq'
      | some b =>
        rw [List.filterMap_cons_some (by rw [hg]; rfl), List.lookup_cons, hne]
        exact ih hr hq'

theorem lookup_las (ps : List CPat) (hn : (ps.map (·.tid)).Nodup) (q : CPat) (hq : q ∈ ps) :
    (compileFull ps).las.lookup q.tid = q.la.map fun l => ⟨l.1, minimize (compileLaPre l.2)⟩ := by
  rw [← lookup_filterMap_of_nodup (·.tid)
    (fun q => q.la.map fun l => (⟨l.1, minimize (compileLaPre l.2)⟩ : La)) ps hn q hq]
  simp only [compileFull, Option.map_map]
  rfl

theorem mem_accLens_la (cm : Nat → Nat → Bool) (a : CAst) (v : List Nat) (x : Nat) :
    x ∈ accLens (minimize (compileLaPre a)) cm v ↔
      ∃ u y, u ≠ [] ∧ v = u ++ y ∧ Matches cm a.toRe u ∧ x = bytesLen u := by
  rw [mem_accLens]
  refine exists_congr fun u => exists_congr fun y => and_congr_right fun hu => and_congr_right fun _ =>
    and_congr_left fun _ => ?_
  -- some accepting state is reached iff the word is accepted for terminal 0, the only one
  constructor
  · rintro ⟨s, hs, he⟩
    exact ((compileLa_correct a cm u _).mp ⟨s, hs, he, rfl⟩).2.2
  · intro hm
    obtain ⟨s, hs, he, _⟩ := (compileLa_correct a cm u 0).mpr ⟨hu, rfl, hm⟩
    exact ⟨s, hs, he⟩

theorem laSpec_compileLa (cm : Nat → Nat → Bool) (pos : Bool) (a : CAst) (v : List Nat) (l : Nat) :
    laSpec cm ⟨pos, minimize (compileLaPre a)⟩ v = some l ↔ LaHolds cm (some (pos, a)) v l := by
  cases pos with
  | true =>
    rw [laSpec_pos_iff]
    simp only [LaHolds, mem_accLens_la]
    refine and_congr_right fun _ => ⟨fun h u x hu hv hm => h _ ⟨u, x, hu, hv, hm, rfl⟩, ?_⟩
    rintro h y ⟨u, x, hu, hv, hm, rfl⟩
    exact h u x hu hv hm
  | false =>
    rw [laSpec_neg_iff, List.eq_nil_iff_forall_not_mem]
    simp only [LaHolds, mem_accLens_la]
    refine and_congr_right fun _ => ⟨?_, ?_⟩
    · rintro h ⟨u, x, hu, hv, hm⟩
      exact h _ ⟨u, x, hu, hv, hm, rfl⟩
    · rintro h y ⟨u, x, hu, hv, hm, _⟩
      exact h ⟨u, x, hu, hv, hm⟩

theorem compileFull_laSpec (ps : List CPat) (hn : (ps.map (·.tid)).Nodup) (cm : Nat → Nat → Bool) (q : CPat)
    (hq : q ∈ ps) (v : List Nat) (l : Nat) :
    (compileFull ps).laSpec cm q.tid v = some l ↔ LaHolds cm q.la v l := by
  simp only [ModeDfa.laSpec, lookup_las ps hn q hq]
  cases hla : q.la with
  | none => exact ⟨fun h => (Option.some.inj h).symm, fun h => congrArg some (Eq.symm h)⟩
  | some pa =>
    obtain ⟨pos, a⟩ := pa
    simp only [Option.map_some]
    exact laSpec_compileLa cm pos a v l

theorem compileFull_dfa (ps : List CPat) :
    (compileFull ps).dfa = compileMode (ps.map fun q => (q.tid, q.ast)) := rfl

theorem compileFull_prio (ps : List CPat) : (compileFull ps).dfa.prio = ps.map (·.tid) := by
  rw [compileFull_dfa, compileMode_prio, List.map_map]
  rfl

theorem mem_specCands_full (ps : List CPat) (hn : (ps.map (·.tid)).Nodup) (cm : Nat → Nat → Bool) (i : Nat)
    (w : List Nat) (k : Cand) : k ∈ specCands (compileFull ps) cm i w ↔ PCand cm ps i w k := by
  rw [mem_specCands_iff]
  simp only [compileFull_dfa, compileMode_correct, PCand]
  constructor
  · rintro ⟨u, v, hu, hw, ⟨_, x, hx, ht, hm⟩, hk, l, hl, he⟩
    obtain ⟨q, hq, rfl⟩ := List.mem_map.mp hx
    have ht : q.tid = k.tid := ht
    exact ⟨u, v, q, hu, hw, hq, ht, hm, hk, l, (compileFull_laSpec ps hn cm q hq v l).mp (ht ▸ hl), he⟩
  · rintro ⟨u, v, q, hu, hw, hq, ht, hm, hk, l, hl, he⟩
    exact ⟨u, v, hu, hw, ⟨hu, _, List.mem_map.mpr ⟨q, hq, rfl⟩, ht, hm⟩, hk, l,
      ht ▸ (compileFull_laSpec ps hn cm q hq v l).mpr hl, he⟩

/-- pattern-level verdict on a finder result `(token type, end)` for the remaining input `w` -/
def PFindOK (cm : Nat → Nat → Bool) (ps : List CPat) (w : List Nat) : Option (Nat × Nat) → Prop
  | none => ∀ k, ¬ PCand cm ps 0 w k
  | some (t, e) => ∃ k, PCand cm ps 0 w k ∧ k.tid = t ∧ k.endPos = e ∧
      ∀ k', PCand cm ps 0 w k' → k'.extent < k.extent ∨
        (k'.extent = k.extent ∧ (ps.map (·.tid)).idxOf k.tid ≤ (ps.map (·.tid)).idxOf k'.tid)

theorem specFindOK_full (ps : List CPat) (hn : (ps.map (·.tid)).Nodup) (cm : Nat → Nat → Bool)
    (w : List Nat) (r : Option (Nat × Nat)) :
    specFindOK (compileFull ps) cm 0 w r = true ↔ PFindOK cm ps w r := by
  cases r with
  | none =>
    simp only [specFindOK_none, List.eq_nil_iff_forall_not_mem, mem_specCands_full ps hn, PFindOK]
  | some r =>
    obtain ⟨t, e⟩ := r
    simp only [specFindOK_some, mem_specCands_full ps hn, Dfa.prioOf, compileFull_prio, PFindOK]

theorem findFrom_compileFull (ps : List CPat) (hn : (ps.map (·.tid)).Nodup) (cm : Nat → Nat → Bool)
    (w : List Nat) : PFindOK cm ps w (findFrom (compileFull ps) cm 0 w) :=
  (specFindOK_full ps hn cm w _).mp (findFrom_specFindOK _ cm 0 w)

end Scnr

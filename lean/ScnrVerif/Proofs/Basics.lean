import ScnrVerif.Model.Equiv
/-!
# Shared lemmas

General facts about lists, the sortedness predicate shared by line offsets and minimizer groups,
and the first lemmas about the definitions of `Model/Basic.lean`, `Model/Dfa.lean` and the
canonical lists of `Model/Equiv.lean`, which every later proof file uses.
-/
namespace Scnr

theorem mem_foldl_step {α : Type} {ins : List α → α → List α}
    (h : ∀ acc x y, y ∈ ins acc x ↔ y ∈ acc ∨ y = x) (l acc : List α) (y : α) :
    y ∈ l.foldl ins acc ↔ y ∈ acc ∨ y ∈ l := by
  induction l generalizing acc with
  | nil => simp
  | cons a r ih => rw [List.foldl_cons, ih, h, List.mem_cons, or_assoc]

theorem exists_mem_cons_iff {α : Type} {p : α → Prop} {a : α} {l : List α} :
    (∃ x, x ∈ a :: l ∧ p x) ↔ p a ∨ ∃ x, x ∈ l ∧ p x := by simp

theorem headD_mem {α : Type} {l : List α} {d : α} (h : l ≠ []) : l.headD d ∈ l := by
  cases l with
  | nil => exact absurd rfl h
  | cons a r => exact List.mem_cons_self

theorem nodup_concat {α : Type} {l : List α} {a : α} (h : l.Nodup) (ha : a ∉ l) : (l ++ [a]).Nodup :=
  List.nodup_append.mpr ⟨h, List.pairwise_singleton _ _, fun _ hx _ hb e =>
    ha (List.mem_singleton.mp hb ▸ e ▸ hx)⟩

theorem nodup_map_of_inj_on {α β : Type} (f : α → β) (l : List α) (hnd : l.Nodup)
    (hinj : ∀ x ∈ l, ∀ y ∈ l, f x = f y → x = y) : (l.map f).Nodup :=
  List.pairwise_map.mpr (hnd.imp_of_mem fun hx hy hne heq => hne (hinj _ hx _ hy heq))

theorem inj_on_of_nodup_map {α β : Type} {f : α → β} {l : List α} (h : (l.map f).Nodup) :
    ∀ x ∈ l, ∀ y ∈ l, f x = f y → x = y :=
  have hp := List.pairwise_map.mp h
  fun _ hx _ hy => List.Pairwise.forall_of_forall_of_flip (R := fun a b => f a = f b → a = b)
    (fun _ _ _ => rfl) (hp.imp fun hne heq => absurd heq hne)
    (hp.imp fun hne heq => absurd heq.symm hne) hx hy

theorem getElem?_append_some {α : Type} {l r : List α} {i : Nat} {e : α} (h : l[i]? = some e) :
    (l ++ r)[i]? = some e := by
  rw [List.getElem?_append_left (List.getElem?_eq_some_iff.1 h).1, h]

theorem getElem?_concat_some {α : Type} {l : List α} {a e : α} {i : Nat} (h : (l ++ [a])[i]? = some e) :
    l[i]? = some e ∨ (i = l.length ∧ e = a) := by
  rcases Nat.lt_or_ge i l.length with hi | hi
  · exact .inl (List.getElem?_append_left hi ▸ h)
  · rw [List.getElem?_append_right hi, List.getElem?_singleton] at h
    split at h
    · exact .inr ⟨by omega, (Option.some.inj h).symm⟩
    · cases h

theorem getD_eq_default_or_mem {α : Type} (l : List α) (i : Nat) (d : α) :
    l.getD i d = d ∨ l.getD i d ∈ l := by
  rw [List.getD_eq_getElem?_getD]
  cases h : l[i]? with
  | none => exact .inl rfl
  | some x => exact .inr (List.mem_of_getElem? h)

theorem getD_map_range {α : Type} (f : Nat → α) (n s : Nat) (d : α) :
    ((List.range n).map f).getD s d = if s < n then f s else d := by
  rw [List.getD_eq_getElem?_getD, List.getElem?_map]
  split
  · rename_i h
    rw [List.getElem?_range h]
    rfl
  · rename_i h
    rw [List.getElem?_eq_none (by simpa using h)]
    rfl

theorem modify_append_left {α : Type} {m : List α} (f : α → α) (l : List α) {i : Nat} (h : i < l.length) :
    (l ++ m).modify i f = l.modify i f ++ m := by
  induction l generalizing i with
  | nil => cases h
  | cons x l ih =>
    cases i with
    | zero => rfl
    | succ i => exact congrArg (x :: ·) (ih (Nat.lt_of_succ_lt_succ h))

theorem modify_append_right {α : Type} {m : List α} (f : α → α) {i j : Nat} (l : List α) (h : i = l.length + j) :
    (l ++ m).modify i f = l ++ m.modify j f :=
  h ▸ List.modifyTailIdx_add (List.modifyHead f) j l m

theorem modify_length_snoc {α : Type} (l : List α) (x : α) (f : α → α) : (l ++ [x]).modify l.length f = l ++ [f x] :=
  modify_append_right (j := 0) f l rfl

theorem forall_mem_modify {α : Type} {Q : α → Prop} {f : α → α} (hf : ∀ x, Q x → Q (f x)) {l : List α} {i : Nat}
    (h : ∀ x ∈ l, Q x) : ∀ x ∈ l.modify i f, Q x := by
  intro x hx
  obtain ⟨j, hj, rfl⟩ := List.mem_iff_getElem.mp hx
  rw [List.getElem_modify]
  have := h _ (List.getElem_mem (by rwa [List.length_modify] at hj))
  split
  · exact hf _ this
  · exact this

theorem forall_mem_pair {α : Type} {Q : α → Prop} {x y : α} (hx : Q x) (hy : Q y) : ∀ z ∈ [x, y], Q z :=
  List.forall_mem_cons.mpr ⟨hx, List.forall_mem_singleton.mpr hy⟩

theorem getLastD_append {α : Type} (a b : List α) (x : α) :
    (a ++ b).getLastD x = b.getLastD (a.getLastD x) := by
  induction a generalizing x with
  | nil => rfl
  | cons c a ih => rw [List.cons_append, List.getLastD_cons, List.getLastD_cons, ih]

theorem forall_suffix_nil {α : Type} {P : List α → Prop} :
    ∀ a b : List α, [] = a ++ b → b ≠ [] → P b :=
  fun _ _ hab hb => absurd (List.append_eq_nil_iff.mp hab.symm).2 hb

theorem forall_suffix_cons {α : Type} {P : List α → Prop} {c : α} {w : List α} (h0 : P (c :: w))
    (h : ∀ a b, w = a ++ b → b ≠ [] → P b) : ∀ a b, c :: w = a ++ b → b ≠ [] → P b
  | [], b, hab, _ => (show c :: w = b from hab) ▸ h0
  | _ :: a, b, hab, hb => h a b (List.cons.inj hab).2 hb

theorem length_lt_append_append {α : Type} (sk : List α) {u : List α} (v : List α) (hu : u ≠ []) :
    v.length < (sk ++ (u ++ v)).length := by
  rw [List.length_append, List.length_append]
  exact Nat.lt_of_lt_of_le (Nat.lt_add_of_pos_left (List.length_pos_iff.mpr hu)) (Nat.le_add_left _ _)

theorem nodup_length_le_of_image {α : Type} (l : List α) (f : Nat → α) (N : Nat)
    (hnd : l.Nodup) (h : ∀ x ∈ l, ∃ q, q < N ∧ f q = x) : l.length ≤ N := by
  have := hnd.length_le_of_subset (l₂ := (List.range N).map f) fun x hx => by
    obtain ⟨q, hq, rfl⟩ := h x hx
    exact List.mem_map.2 ⟨q, List.mem_range.2 hq, rfl⟩
  simpa using this

theorem nodup_length_le_of_bounded (l : List Nat) (lo n : Nat) (hnd : l.Nodup)
    (hb : ∀ x ∈ l, lo ≤ x ∧ x < lo + n) : l.length ≤ n := by
  have := hnd.length_le_of_subset (l₂ := List.range' lo n) fun x hx =>
    List.mem_range'_1.2 (hb x hx)
  simpa using this

inductive Forall₂ {α β : Type} (r : α → β → Prop) : List α → List β → Prop where
  | nil : Forall₂ r [] []
  | cons {a : α} {b : β} {l : List α} {l' : List β} : r a b → Forall₂ r l l' → Forall₂ r (a :: l) (b :: l')

section Forall₂
variable {α β γ δ : Type} {r : α → β → Prop} {l : List α} {l' : List β}

theorem Forall₂.length_eq (h : Forall₂ r l l') : l.length = l'.length := by
  induction h with
  | nil => rfl
  | cons _ _ ih => rw [List.length_cons, List.length_cons, ih]

theorem Forall₂.flip (h : Forall₂ r l l') : Forall₂ (fun b a => r a b) l' l := by
  induction h with
  | nil => exact .nil
  | cons hab _ ih => exact .cons hab ih

theorem Forall₂.comp {s : β → γ → Prop} {t : α → γ → Prop} {l'' : List γ} (h1 : Forall₂ r l l')
    (h2 : Forall₂ s l' l'') (hrs : ∀ a b c, r a b → s b c → t a c) : Forall₂ t l l'' := by
  induction h1 generalizing l'' with
  | nil => cases h2; exact .nil
  | cons hab _ ih =>
    cases h2 with
    | cons hbc h2 => exact .cons (hrs _ _ _ hab hbc) (ih h2)

theorem Forall₂.mem_left (h : Forall₂ r l l') {a : α} (ha : a ∈ l) : ∃ b ∈ l', r a b := by
  induction h with
  | nil => cases ha
  | cons hab _ ih =>
    rcases List.mem_cons.mp ha with rfl | ha
    · exact ⟨_, List.mem_cons_self, hab⟩
    · obtain ⟨b, hb, hr⟩ := ih ha
      exact ⟨b, List.mem_cons_of_mem _ hb, hr⟩

theorem Forall₂.mem_right (h : Forall₂ r l l') {b : β} (hb : b ∈ l') : ∃ a ∈ l, r a b :=
  h.flip.mem_left hb

theorem Forall₂.getElem? (h : Forall₂ r l l') {i : Nat} {b : β} (hb : l'[i]? = some b) :
    ∃ a, l[i]? = some a ∧ r a b := by
  induction h generalizing i with
  | nil => cases hb
  | cons hab _ ih =>
    cases i with
    | zero => exact ⟨_, rfl, Option.some.inj hb ▸ hab⟩
    | succ i => exact ih hb

theorem Forall₂.map_eq {f : α → δ} {g : β → δ} (h : Forall₂ r l l') (hfg : ∀ a b, r a b → f a = g b) :
    l.map f = l'.map g := by
  induction h with
  | nil => rfl
  | cons hab _ ih => rw [List.map_cons, List.map_cons, hfg _ _ hab, ih]

end Forall₂

def StrictSorted : List Nat → Prop
  | [] => True
  | x :: r => (∀ y ∈ r, x < y) ∧ StrictSorted r

theorem strictSorted_iff_pairwise (l : List Nat) : StrictSorted l ↔ l.Pairwise (· < ·) := by
  induction l with
  | nil => simp [StrictSorted]
  | cons a r ih => simp only [StrictSorted, List.pairwise_cons, ih]

theorem strictSorted_nodup {l : List Nat} (h : StrictSorted l) : l.Nodup :=
  ((strictSorted_iff_pairwise l).1 h).imp Nat.ne_of_lt

theorem strictSorted_ext {a b : List Nat} (ha : StrictSorted a) (hb : StrictSorted b)
    (h : ∀ x, x ∈ a ↔ x ∈ b) : a = b :=
  List.Perm.eq_of_pairwise (le := (· < ·)) (fun _ _ _ _ h1 h2 => absurd h1 (Nat.lt_asymm h2))
    ((strictSorted_iff_pairwise a).1 ha) ((strictSorted_iff_pairwise b).1 hb)
    ((List.perm_ext_iff_of_nodup (strictSorted_nodup ha) (strictSorted_nodup hb)).2 h)

theorem strictSorted_filter {a : List Nat} (p : Nat → Bool) (ha : StrictSorted a) :
    StrictSorted (a.filter p) :=
  (strictSorted_iff_pairwise _).2 (((strictSorted_iff_pairwise a).1 ha).filter p)

theorem filter_range_sorted (n : Nat) (p : Nat → Bool) : StrictSorted ((List.range n).filter p) :=
  (strictSorted_iff_pairwise _).mpr (List.pairwise_lt_range.filter p)

theorem utf8Len_pos (c : Nat) : 0 < utf8Len c := by
  unfold utf8Len
  repeat' split
  all_goals decide

theorem bytesLen_append (u v : List Nat) : bytesLen (u ++ v) = bytesLen u + bytesLen v := by
  induction u with
  | nil => exact (Nat.zero_add _).symm
  | cons a u ih => simp only [List.cons_append, bytesLen, ih, Nat.add_assoc]

theorem bytesLen_pos {u : List Nat} (h : u ≠ []) : 0 < bytesLen u := by
  cases u with
  | nil => exact absurd rfl h
  | cons a u => exact Nat.add_pos_left (utf8Len_pos a) _

theorem inRanges_singleton (lo hi ch : Nat) : inRanges [(lo, hi)] ch = (decide (lo ≤ ch) && decide (ch ≤ hi)) := by
  simp only [inRanges, List.any_cons, List.any_nil, Bool.or_false]

theorem inRanges_point (c ch : Nat) : inRanges [(c, c)] ch = (ch == c) := by
  rw [inRanges_singleton, Bool.eq_iff_iff, Bool.and_eq_true, decide_eq_true_eq, decide_eq_true_eq, beq_iff_eq]
  omega

theorem inRanges_succ {t : List (Nat × Nat)} {c : Nat} (h : ∀ p ∈ t, p.1 ≠ c + 1 ∧ p.2 + 1 ≠ c + 1) :
    inRanges t (c + 1) = inRanges t c := by
  unfold inRanges
  rw [Bool.eq_iff_iff, List.any_eq_true, List.any_eq_true]
  refine exists_congr fun p => and_congr_right fun hp => ?_
  have := h p hp
  rw [Bool.and_eq_true, Bool.and_eq_true, decide_eq_true_eq, decide_eq_true_eq, decide_eq_true_eq,
    decide_eq_true_eq]
  omega

theorem mem_push_if_new {α : Type} [BEq α] [LawfulBEq α] (acc : List α) (x y : α) :
    y ∈ (if acc.contains x then acc else acc ++ [x]) ↔ y ∈ acc ∨ y = x := by
  split
  · rename_i h
    exact ⟨Or.inl, fun h' => h'.elim id fun e => e ▸ List.contains_iff_mem.mp h⟩
  · rw [List.mem_append, List.mem_singleton]

theorem mem_pushNew {acc : List Nat} {x y : Nat} : y ∈ pushNew acc x ↔ y ∈ acc ∨ y = x :=
  mem_push_if_new acc x y

theorem mem_foldl_pushNew {H acc : List Nat} {y : Nat} :
    y ∈ H.foldl pushNew acc ↔ y ∈ acc ∨ y ∈ H :=
  mem_foldl_step (fun _ _ _ => mem_pushNew) H acc y

theorem mem_nextStates {H : List Nat} {y : Nat} : y ∈ nextStates H ↔ y ∈ H := by
  unfold nextStates; simp [mem_foldl_pushNew]

theorem pushNew_nodup (acc : List Nat) (t : Nat) (h : acc.Nodup) : (pushNew acc t).Nodup := by
  unfold pushNew
  split
  · exact h
  · rename_i hc
    exact nodup_concat h fun hm => hc (List.contains_iff_mem.mpr hm)

theorem foldl_pushNew_nodup (ts acc : List Nat) (h : acc.Nodup) : (ts.foldl pushNew acc).Nodup :=
  List.foldlRecOn ts pushNew h fun b hb a _ => pushNew_nodup b a hb

theorem pushNew_prefix (acc : List Nat) (t : Nat) : ∃ e, pushNew acc t = acc ++ e := by
  unfold pushNew
  split
  · exact ⟨[], by simp⟩
  · exact ⟨[t], rfl⟩

theorem foldl_pushNew_prefix (ts acc : List Nat) : ∃ e, ts.foldl pushNew acc = acc ++ e := by
  induction ts generalizing acc with
  | nil => exact ⟨[], by simp⟩
  | cons t r ih =>
    obtain ⟨e1, h1⟩ := pushNew_prefix acc t
    obtain ⟨e2, h2⟩ := ih (pushNew acc t)
    exact ⟨e1 ++ e2, by rw [List.foldl_cons, h2, h1, List.append_assoc]⟩

theorem outs_mem_trans (A : Dfa) (s : Nat) (p : Nat × Nat) (h : p ∈ A.outs s) : ∃ ts ∈ A.trans, p ∈ ts := by
  unfold Dfa.outs at h
  rcases getD_eq_default_or_mem A.trans s [] with hd | hm
  · rw [hd] at h
    cases h
  · exact ⟨_, hm, h⟩

theorem targets_of_all {A : Dfa} {n : Nat} (h : ∀ ts ∈ A.trans, ∀ p ∈ ts, p.2 < n) (s cc t : Nat)
    (ht : (cc, t) ∈ A.outs s) : t < n := by
  obtain ⟨ts, hts, hp⟩ := outs_mem_trans A s (cc, t) ht
  exact h ts hts (cc, t) hp

theorem mem_hitsOf {A : Dfa} {cm c s x} :
    x ∈ hitsOf A cm c s ↔ ∃ cc, (cc, x) ∈ A.outs s ∧ cm cc c = true := by
  unfold hitsOf
  simp only [List.mem_filterMap]
  constructor
  · rintro ⟨⟨cc, y⟩, hm, h⟩
    by_cases hc : cm cc c = true
    · simp [hc] at h; subst h; exact ⟨cc, hm, hc⟩
    · simp [hc] at h
  · rintro ⟨cc, hm, hc⟩
    exact ⟨(cc, x), hm, by simp [hc]⟩

theorem mem_hits {A : Dfa} {cm c S x} :
    x ∈ hits A cm c S ↔ ∃ s ∈ S, x ∈ hitsOf A cm c s := by
  unfold hits; simp [List.mem_flatMap]

theorem hits_nil {A : Dfa} {cm c} : hits A cm c [] = [] := rfl

theorem mem_stepStates {A : Dfa} {cm c S y} : y ∈ stepStates A cm c S ↔ y ∈ hits A cm c S := by
  unfold stepStates; exact mem_nextStates

theorem stepStates_nil {A : Dfa} {cm c} : stepStates A cm c [] = [] := rfl

theorem mem_step_iff {A : Dfa} {cm : Nat → Nat → Bool} {c : Nat} {S : List Nat} {y : Nat} :
    y ∈ stepStates A cm c S ↔ ∃ s ∈ S, ∃ cc, (cc, y) ∈ A.outs s ∧ cm cc c = true := by
  simp only [mem_stepStates, mem_hits, mem_hitsOf]

theorem reach_single (A : Dfa) (cm) (S : List Nat) (c : Nat) :
    reach A cm S [c] = stepStates A cm c S := rfl

theorem reach_cons (A : Dfa) (cm) (S : List Nat) (c : Nat) (u : List Nat) :
    reach A cm S (c :: u) = reach A cm (stepStates A cm c S) u := rfl

theorem reach_congr {A : Dfa} {cm} (w : List Nat) {S S' : List Nat} (h : ∀ x, x ∈ S ↔ x ∈ S') (y : Nat) :
    y ∈ reach A cm S w ↔ y ∈ reach A cm S' w := by
  induction w generalizing S S' with
  | nil => exact h y
  | cons c w ih =>
    refine ih (fun x => ?_)
    rw [mem_step_iff, mem_step_iff]
    exact exists_congr fun s => and_congr_left' (h s)

/-- the words that lead from state `s` to an end state with the terminal `t`, letter by letter -/
def Dfa.LangFrom (A : Dfa) (cm : Nat → Nat → Bool) : Nat → List Nat → Nat → Prop
  | s, [], t => A.isEnd s = true ∧ A.tidOf s = t
  | s, c :: w, t => ∃ cc s', (cc, s') ∈ A.outs s ∧ cm cc c = true ∧ Dfa.LangFrom A cm s' w t

theorem exists_reach_iff {A : Dfa} {cm} {t : Nat} (w : List Nat) {S : List Nat} :
    (∃ s' ∈ reach A cm S w, A.isEnd s' = true ∧ A.tidOf s' = t) ↔ ∃ s ∈ S, A.LangFrom cm s w t := by
  induction w generalizing S with
  | nil => exact Iff.rfl
  | cons c w ih =>
    rw [reach_cons, ih]
    constructor
    · rintro ⟨x, hx, hl⟩
      obtain ⟨s, hs, cc, h1, h2⟩ := mem_step_iff.mp hx
      exact ⟨s, hs, cc, x, h1, h2, hl⟩
    · rintro ⟨s, hs, cc, x, h1, h2, hl⟩
      exact ⟨x, mem_step_iff.mpr ⟨s, hs, cc, h1, h2⟩, hl⟩

theorem acceptsTid_iff_langFrom {A : Dfa} {cm} {w : List Nat} {t : Nat} :
    acceptsTid A cm w t ↔ A.LangFrom cm 0 w t :=
  (exists_reach_iff w).trans
    ⟨fun ⟨_, hs, h⟩ => List.mem_singleton.mp hs ▸ h, fun h => ⟨0, List.mem_singleton.mpr rfl, h⟩⟩

theorem mem_insertBy {α : Type} [DecidableEq α] (lt : α → α → Bool) (x y : α) (l : List α) :
    y ∈ insertBy lt x l ↔ y = x ∨ y ∈ l := by
  fun_induction insertBy lt x l with
  | case1 => rw [List.mem_singleton, or_iff_left List.not_mem_nil]
  | case2 r => rw [List.mem_cons, or_self_left]
  | case3 a r _ _ => exact List.mem_cons
  | case4 a r _ _ ih => rw [List.mem_cons, ih, List.mem_cons, or_left_comm]

theorem mem_normBy {α : Type} [DecidableEq α] (lt : α → α → Bool) (y : α) (l : List α) :
    y ∈ normBy lt l ↔ y ∈ l := by
  simpa [normBy] using mem_foldl_step (ins := fun acc x => insertBy lt x acc)
    (fun acc x y => by rw [mem_insertBy, or_comm]) l [] y

theorem mem_normNat (y : Nat) (l : List Nat) : y ∈ normNat l ↔ y ∈ l := mem_normBy _ y l

theorem mem_normP (y : Nat × Re) (l : List (Nat × Re)) : y ∈ normP l ↔ y ∈ l := mem_normBy _ y l

theorem insertBy_lt_sorted (x : Nat) (l : List Nat) (h : StrictSorted l) :
    StrictSorted (insertBy (fun a b => decide (a < b)) x l) := by
  fun_induction insertBy (fun a b => decide (a < b)) x l with
  | case1 => exact ⟨nofun, trivial⟩
  | case2 r => exact h
  | case3 a r _ hlt =>
    have hlt := of_decide_eq_true hlt
    exact ⟨List.forall_mem_cons.mpr ⟨hlt, fun y hy => Nat.lt_trans hlt (h.1 y hy)⟩, h⟩
  | case4 a r hne hlt ih =>
    refine ⟨fun y hy => ?_, ih h.2⟩
    rcases (mem_insertBy _ x y r).mp hy with rfl | hy
    · have := of_decide_eq_false (Bool.eq_false_iff.mpr hlt)
      omega
    · exact h.1 y hy

theorem normNat_sorted (l : List Nat) : StrictSorted (normNat l) :=
  List.foldlRecOn l _ (show StrictSorted [] from trivial) fun b hb a _ => insertBy_lt_sorted a b hb

end Scnr

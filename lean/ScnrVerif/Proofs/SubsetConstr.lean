import ScnrVerif.Proofs.Worklist
/-!
# The automaton read off the final table is correct, for every `Gen` with a meaning (track A)

A state of the table stands for an NFA state `q` through its closure `g.clos q` (`GRep`); a step of the
automaton is a match transition of that closure (`Gen.Step`). `GSem` says what the steps and the acceptance
flags mean: they unfold a relation `L q w tid` ("the word `w` leads from `q` to acceptance for the terminal
`tid`") letter by letter. Despite the file name this is not the subset construction: a state of the
automaton is the closure of one NFA state (`Model/Compile.lean`).
-/
namespace Scnr

/-- what the minimizer needs of an automaton: it has a state, state 0 is no end state, transitions lead
    to states -/
def Dfa.Proper (A : Dfa) : Prop :=
  0 < A.trans.length ∧ A.isEnd 0 = false ∧ ∀ s cc t, (cc, t) ∈ A.outs s → t < A.trans.length

theorem GInv.outs {g : Gen} {q0 : Nat} {V : Nat → Prop} {b : BuildSt} (h : GInv g q0 V b) (prio : List Nat)
    (s cc j : Nat) : (cc, j) ∈ (mkDfa b prio).outs s ↔ (s, cc, j) ∈ b.trans := by
  simp only [Dfa.outs, mkDfa, getD_map_range]
  split
  · simp only [List.mem_map, List.mem_filter, beq_iff_eq]
    constructor
    · rintro ⟨⟨a, c, d⟩, ⟨hm, rfl⟩, he⟩
      cases he
      exact hm
    · exact fun hm => ⟨(s, cc, j), ⟨hm, rfl⟩, rfl⟩
  · rename_i hs
    exact ⟨fun hm => (nomatch hm), fun hm => absurd (h.trans_lt (s, cc, j) hm).1 hs⟩

theorem mkDfa_end (b : BuildSt) (prio : List Nat) (s : Nat) :
    ((mkDfa b prio).isEnd s = true ∧ (s, (mkDfa b prio).tidOf s) ∈ b.acc) ∨
    ((mkDfa b prio).isEnd s = false ∧ (s < b.map.length → ∀ tid, (s, tid) ∉ b.acc)) := by
  simp only [Dfa.isEnd, Dfa.tidOf, mkDfa, getD_map_range]
  split
  · cases hl : (b.acc.filter fun a => a.1 == s).getLast? with
    | none =>
      refine .inr ⟨rfl, fun _ tid ht => ?_⟩
      have hm : (s, tid) ∈ b.acc.filter fun a => a.1 == s := List.mem_filter.mpr ⟨ht, beq_iff_eq.mpr rfl⟩
      rw [List.getLast?_eq_none_iff.mp hl] at hm
      cases hm
    | some a =>
      have := List.mem_filter.mp (List.mem_of_getLast? hl)
      exact .inl ⟨rfl, beq_iff_eq.mp this.2 ▸ this.1⟩
  · rename_i hs
    exact .inr ⟨rfl, fun hlt => absurd hlt hs⟩

theorem mkDfa_tidOf_mem {b : BuildSt} (prio : List Nat) (s : Nat) (he : (mkDfa b prio).isEnd s = true) :
    (s, (mkDfa b prio).tidOf s) ∈ b.acc :=
  (mkDfa_end b prio s).elim And.right fun h => absurd he (h.1 ▸ Bool.false_ne_true)

theorem GInv.isEnd {g : Gen} {q0 : Nat} {V : Nat → Prop} {b : BuildSt} (h : GInv g q0 V b) (prio : List Nat)
    (s : Nat) : (mkDfa b prio).isEnd s = true ↔ ∃ tid, (s, tid) ∈ b.acc := by
  refine ⟨fun he => ⟨_, mkDfa_tidOf_mem prio s he⟩, ?_⟩
  rintro ⟨tid, ht⟩
  exact (mkDfa_end b prio s).elim And.left fun hn => absurd ht (hn.2 (h.acc_lt _ ht) tid)

/-- one step as the construction sees it: a match transition of the closure of `q` into `t` on a class
    that contains the character `c` -/
def Gen.Step (g : Gen) (cm : Nat → Nat → Bool) (q c t : Nat) : Prop :=
  ∃ cc, (cc, t) ∈ g.tr (g.clos q) ∧ cm cc c = true

/-- state `j` of the table is the closure of the NFA state `q` -/
def GRep (g : Gen) (q0 : Nat) (V : Nat → Prop) (b : BuildSt) (j q : Nat) : Prop :=
  (q = q0 ∨ V q) ∧ b.map[j]? = some (g.clos q, j)

/-- state `j` of the table is the closure of the target `q` and carries its acceptance mark -/
def GRepA (g : Gen) (V : Nat → Prop) (b : BuildSt) (j q : Nat) : Prop :=
  V q ∧ b.map[j]? = some (g.clos q, j) ∧ (g.accf (g.clos q) = true → (j, g.tidf q) ∈ b.acc)

variable {g : Gen} {q0 N : Nat} {V : Nat → Prop} {b : BuildSt}

theorem GRepA.rep {j q : Nat} (h : GRepA g V b j q) : GRep g q0 V b j q := ⟨.inr h.1, h.2.1⟩

theorem GRep.mark (h : GInv g q0 V b) {j q tid : Nat} (hr : GRep g q0 V b j q) (ha : (j, tid) ∈ b.acc) :
    ∃ t, V t ∧ g.clos q = g.clos t ∧ g.accf (g.clos q) = true ∧ tid = g.tidf t := by
  obtain ⟨t, ht, h1, h2, h3⟩ := h.asound _ ha
  have hcl : g.clos q = g.clos t := congrArg Prod.fst (Option.some.inj (hr.2.symm.trans h1))
  exact ⟨t, ht, hcl, hcl ▸ h2, h3⟩

/-- what the parameters of the construction mean for an NFA-like system with the initial state `q0` and the
    targets `V`: the steps and acceptance flags of closures unfold the relation `L q w tid` (the word `w`
    leads from `q` to acceptance for the terminal `tid`); closures determine the terminal, and the initial
    closure is no closure of a target, so that state 0 is never marked -/
structure GSem (g : Gen) (q0 : Nat) (V : Nat → Prop) (cm : Nat → Nat → Bool)
    (L : Nat → List Nat → Nat → Prop) : Prop where
  nil : ∀ q, V q → ∀ tid, L q [] tid ↔ g.accf (g.clos q) = true ∧ g.tidf q = tid
  cons : ∀ q, (q = q0 ∨ V q) → ∀ c w tid, L q (c :: w) tid ↔ ∃ t, g.Step cm q c t ∧ L t w tid
  tid : ∀ q q', V q → V q' → g.clos q = g.clos q' → g.tidf q = g.tidf q'
  start : ∀ q, V q → g.clos q ≠ g.clos q0

theorem gen_dfa_proper (hstart : ∀ q, V q → g.clos q ≠ g.clos q0) (h : GInv g q0 V b) (prio : List Nat) :
    (mkDfa b prio).Proper := by
  have hlen : (mkDfa b prio).trans.length = b.map.length := by
    simp only [mkDfa, List.length_map, List.length_range]
  rw [Dfa.Proper, hlen]
  refine ⟨h.pos, Bool.eq_false_iff.mpr fun he => ?_, fun s cc t ht => (h.trans_lt _ ((h.outs prio s cc t).mp ht)).2⟩
  obtain ⟨tid, ha⟩ := (h.isEnd prio 0).mp he
  obtain ⟨t, ht, h1, _⟩ := h.asound _ ha
  exact hstart t ht (congrArg Prod.fst (Option.some.inj (h1.symm.trans h.zero)))

theorem glang_cons {cm : Nat → Nat → Bool} {L : Nat → List Nat → Nat → Prop} (hok : GOK g q0 V N)
    (h : GInv g q0 V b) (prio : List Nat) {j q c tid : Nat} {w : List Nat} (hr : GRep g q0 V b j q) (hd : AllDone g b j)
    (ih : ∀ j' t, GRepA g V b j' t → ((mkDfa b prio).LangFrom cm j' w tid ↔ L t w tid)) :
    (mkDfa b prio).LangFrom cm j (c :: w) tid ↔ ∃ t, g.Step cm q c t ∧ L t w tid := by
  constructor
  · rintro ⟨cc, j', hout, hcm, hl⟩
    obtain ⟨cli, t, h1, h2, h3⟩ := h.tsound _ ((h.outs prio j cc j').mp hout)
    cases hr.2.symm.trans h1
    obtain ⟨j2, e1, _, e3⟩ := hd _ hr.2 _ h2
    cases h.index_inj e1 h3 rfl
    exact ⟨t, ⟨cc, h2, hcm⟩, (ih _ t ⟨hok.target _ (h.cls hr.2) _ h2, h3, e3⟩).mp hl⟩
  · rintro ⟨t, ⟨cc, hm, hcm⟩, hl⟩
    obtain ⟨j', h1, h2, h3⟩ := hd _ hr.2 _ hm
    exact ⟨cc, j', (h.outs prio j cc j').mpr h2, hcm, (ih j' t ⟨hok.target _ (h.cls hr.2) _ hm, h1, h3⟩).mpr hl⟩

theorem glang_iff {cm : Nat → Nat → Bool} {L : Nat → List Nat → Nat → Prop} (hok : GOK g q0 V N)
    (hs : GSem g q0 V cm L) (h : GInv g q0 V b) (hd : ∀ i, i < b.map.length → AllDone g b i)
    (prio : List Nat) (tid : Nat) (w : List Nat) :
    ∀ j q, GRepA g V b j q → ((mkDfa b prio).LangFrom cm j w tid ↔ L q w tid) := by
  induction w with
  | nil =>
    intro j q hr
    -- the terminal of `j` is that of one of its marks, all set for targets with the closure of `q`
    have hmark : (mkDfa b prio).isEnd j = true →
        g.accf (g.clos q) = true ∧ g.tidf q = (mkDfa b prio).tidOf j := fun he => by
      obtain ⟨t, ht, hcl, hacc, htt⟩ := (hr.rep (q0 := q0)).mark h (mkDfa_tidOf_mem prio j he)
      exact ⟨hacc, (hs.tid q t hr.1 ht hcl).trans htt.symm⟩
    rw [hs.nil q hr.1]
    constructor
    · rintro ⟨he, rfl⟩
      exact hmark he
    · rintro ⟨hacc, rfl⟩
      have he := (h.isEnd prio j).mpr ⟨_, hr.2.2 hacc⟩
      exact ⟨he, (hmark he).2.symm⟩
  | cons c w ih =>
    intro j q hr
    rw [hs.cons q (.inr hr.1)]
    exact glang_cons hok h prio hr.rep (hd j (List.getElem?_eq_some_iff.mp hr.2.1).1) ih

theorem gen_correct {cm : Nat → Nat → Bool} {L : Nat → List Nat → Nat → Prop} (hok : GOK g q0 V N)
    (hs : GSem g q0 V cm L) (h : GInv g q0 V b) (hd : ∀ i, i < b.map.length → AllDone g b i)
    (prio : List Nat) (w : List Nat) (tid : Nat) :
    acceptsTid (mkDfa b prio) cm w tid ↔ w ≠ [] ∧ L q0 w tid := by
  rw [acceptsTid_iff_langFrom]
  cases w with
  | nil =>
    exact ⟨fun he => absurd he.1 (Bool.eq_false_iff.mp (gen_dfa_proper hs.start h prio).2.1), fun hn => absurd rfl hn.1⟩
  | cons c w =>
    rw [hs.cons q0 (.inl rfl), and_iff_right (List.cons_ne_nil c w)]
    exact glang_cons hok h prio ⟨.inl rfl, h.zero⟩ (hd 0 h.pos) (glang_iff hok hs h hd prio tid w)

end Scnr

import ScnrVerif.Model.Lock
import ScnrVerif.Proofs.World
/-!
# The lock-level model refines the atomic model (C14)

See `Model/Lock.lean` for what is (not) modelled.
The events are analysed once: `fire_move` describes every enabled event as a `Move` of one thread, and
the invariants `Mutex`, `Refines`, `Ordered` are preserved by any `Move`.
-/
namespace Scnr

def tag {α : Type} (t : Nat) (l : List α) : List (Nat × α) := l.map (fun x => (t, x))

theorem proj_append {α : Type} (t : Nat) (a b : List (Nat × α)) :
    proj t (a ++ b) = proj t a ++ proj t b := by
  simp [proj]

theorem proj_tag {α : Type} (t u : Nat) (l : List α) : proj u (tag t l) = if u = t then l else [] := by
  by_cases h : u = t
  · subst h; simp [proj, tag, List.filter_map, Function.comp_def]
  · simp [proj, tag, List.filter_map, Function.comp_def, h, Ne.symm h]

theorem mem_proj {α : Type} {t : Nat} {x : α} {l : List (Nat × α)} : x ∈ proj t l ↔ (t, x) ∈ l := by
  simp only [proj, List.mem_map, List.mem_filter]
  constructor
  · rintro ⟨⟨u, y⟩, ⟨hm, hu⟩, rfl⟩
    have : u = t := by simpa using hu
    subst this; exact hm
  · intro h; exact ⟨(t, x), ⟨h, by simp⟩, rfl⟩

theorem phaseIn_cons (a : Nat) (b : LPhase) (r : List (Nat × LPhase)) (t : Nat) :
    phaseIn ((a, b) :: r) t = if t = a then b else phaseIn r t := by
  by_cases h : t = a
  · subst h; simp [phaseIn, List.lookup]
  · have e : (t == a) = false := by simp [h]
    simp [phaseIn, List.lookup, e, h]

theorem phaseIn_assocSet (l : List (Nat × LPhase)) (t u : Nat) (p : LPhase) :
    phaseIn (assocSet l t p) u = if u = t then p else phaseIn l u := by
  rw [phaseIn, lookup_assocSet]
  by_cases h : u = t
  · rw [if_pos h, if_pos h]
  · rw [if_neg h, if_neg h, phaseIn]

section
variable (compile : CfgId → Option CompId) (cfgOf : CompId → List ModeCfg) (findOf : CompId → Finder)

/-- the threads inside the critical section are exactly the thread recorded in `lock` -/
def Mutex (s : LState) : Prop := ∀ u, (s.phaseOf u).critical = true ↔ s.lock = some u

/-- world and outputs at the linearization points are those of the atomic model run on `linOps` from
    the empty world -/
def Refines (s : LState) : Prop :=
  World.run compile cfgOf findOf World.empty s.linOps = (s.world, s.linOuts)

/-- The linearized calls of a thread are its invoked calls minus the one still waiting for the
    guard; its completed calls are the linearized ones minus the one that has not yet released the
    guard (whose output is the one stored in phase `done`). -/
def Ordered (s : LState) : Prop := ∀ u,
  s.program u = (s.linearized u).map (·.1) ++ (s.phaseOf u).pendingCall ∧
  s.linearized u = s.observed u ++ (s.phaseOf u).pendingRet

/-- An enabled event is a move of one thread `t` from phase `q` to phase `p` that appends `dc`, `dl`,
    `dt` to the entries of `t` in the three histories; the world advances by the newly linearized
    calls and the lock follows the thread into and out of the critical section. The second case of
    `phase` is the lock-free call of an idle thread, which writes no entry of `phase`; the last four
    fields hold by `rfl` at each of the five transitions (`fire_move`). -/
structure Move (s s' : LState) (t : Nat) (q p : LPhase) (dc : List Op) (dl dt : List (Op × Out)) : Prop where
  old : s.phaseOf t = q
  phase : s'.phase = assocSet s.phase t p ∨ s'.phase = s.phase ∧ q = p
  calls : s'.calls = s.calls ++ tag t dc
  lin : s'.lin = s.lin ++ tag t dl
  trace : s'.trace = s.trace ++ tag t dt
  free : q.critical = false → p.critical = true → s.lock = none
  world : World.run compile cfgOf findOf s.world (dl.map (·.1)) = (s'.world, dl.map (·.2)) := by rfl
  lock : s'.lock = match q.critical, p.critical with
    | false, true => some t
    | true, false => none
    | _, _ => s.lock := by rfl
  call : q.pendingCall ++ dc = dl.map (·.1) ++ p.pendingCall := by rfl
  ret : q.pendingRet ++ dl = dt ++ p.pendingRet := by rfl

theorem enabled_call {s : LState} {t : Nat} {op : Op} :
    s.enabled (.call t op) = true ↔ s.phaseOf t = .idle := by
  rw [LState.enabled]
  split
  · next h => exact ⟨fun _ => h, fun _ => rfl⟩
  · next h => exact ⟨nofun, fun e => absurd e h⟩

theorem enabled_acquire {s : LState} {t : Nat} :
    s.enabled (.acquire t) = true ↔ ∃ a cfg, s.phaseOf t = .waiting a cfg ∧ s.lock = none := by
  rw [LState.enabled]
  split
  · next a cfg h hl => exact ⟨fun _ => ⟨a, cfg, h, hl⟩, fun _ => rfl⟩
  · next h => exact ⟨nofun, fun ⟨a, cfg, e, el⟩ => absurd el (h a cfg e)⟩

theorem enabled_body {s : LState} {t : Nat} :
    s.enabled (.body t) = true ↔ ∃ a cfg, s.phaseOf t = .holding a cfg := by
  rw [LState.enabled]
  split
  · next a cfg h => exact ⟨fun _ => ⟨a, cfg, h⟩, fun _ => rfl⟩
  · next h => exact ⟨nofun, fun ⟨a, cfg, e⟩ => absurd e (h a cfg)⟩

theorem enabled_release {s : LState} {t : Nat} :
    s.enabled (.release t) = true ↔ ∃ a cfg out, s.phaseOf t = .done a cfg out := by
  rw [LState.enabled]
  split
  · next a cfg out h => exact ⟨fun _ => ⟨a, cfg, out, h⟩, fun _ => rfl⟩
  · next h => exact ⟨nofun, fun ⟨a, cfg, out, e⟩ => absurd e (h a cfg out)⟩

theorem startCall_atomic (s : LState) (t : Nat) (op : Op) (h : op.isBuild = false) :
    s.startCall compile cfgOf findOf t op =
      s.recordAtomic t op (World.step compile cfgOf findOf s.world op) := by
  cases op with
  | build => cases h
  | _ => rfl

/-- Every enabled event is a `Move` of its thread; `dc` is the invocation the event stands for (for
    `calls_runEvents`), and every event but a `call` lowers the thread's weight (for
    `lock_measure_decreases`). -/
theorem fire_move (s : LState) (e : LEvent) (he : s.enabled e = true) :
    ∃ t q p dc dl dt, Move compile cfgOf findOf s (s.fire compile cfgOf findOf e) t q p dc dl dt ∧
      tag t dc = e.invocation.toList ∧ (e.isCall = false → p.weight < q.weight) := by
  have nil {α} (l : List α) : l = l ++ [] := (List.append_nil l).symm
  cases e with
  | call t op =>
    have hp := enabled_call.mp he
    simp only [LState.fire, hp]
    cases hb : op.isBuild with
    | false =>
      rw [startCall_atomic compile cfgOf findOf s t op hb]
      exact ⟨t, _, .idle, [op], [(op, _)], [(op, _)],
        { old := hp, phase := .inr ⟨rfl, rfl⟩, calls := rfl, lin := rfl, trace := rfl, free := nofun },
        rfl, nofun⟩
    | true =>
      cases op <;> try cases hb
      exact ⟨t, _, .waiting _ _, [_], [], [],
        { old := hp, phase := .inl rfl, calls := rfl, lin := nil _, trace := nil _, free := nofun },
        rfl, nofun⟩
  | acquire t =>
    obtain ⟨a, cfg, hp, hl⟩ := enabled_acquire.mp he
    simp only [LState.fire, hp, hl]
    exact ⟨t, _, .holding a cfg, [], [], [],
      { old := hp, phase := .inl rfl, calls := nil _, lin := nil _, trace := nil _, free := fun _ _ => hl },
      rfl, fun _ => Nat.lt_succ_self _⟩
  | body t =>
    obtain ⟨a, cfg, hp⟩ := enabled_body.mp he
    simp only [LState.fire, hp]
    exact ⟨t, _, .done a cfg _, [], [(.build a cfg, _)], [],
      { old := hp, phase := .inl rfl, calls := nil _, lin := rfl, trace := nil _, free := nofun },
      rfl, fun _ => Nat.lt_succ_self _⟩
  | release t =>
    obtain ⟨a, cfg, out, hp⟩ := enabled_release.mp he
    simp only [LState.fire, hp]
    exact ⟨t, _, .idle, [], [], [(.build a cfg, out)],
      { old := hp, phase := .inl rfl, calls := nil _, lin := nil _, trace := rfl, free := nofun },
      rfl, fun _ => Nat.lt_succ_self _⟩

section
variable {compile cfgOf findOf}
variable {s s' : LState} {t : Nat} {q p : LPhase} {dc : List Op} {dl dt : List (Op × Out)}

theorem Move.phaseOf (m : Move compile cfgOf findOf s s' t q p dc dl dt) :
    s'.phaseOf t = p ∧ ∀ u, u ≠ t → s'.phaseOf u = s.phaseOf u := by
  rcases m.phase with h | ⟨h, hp⟩
  · refine ⟨?_, fun u hu => ?_⟩
    · rw [LState.phaseOf, h, phaseIn_assocSet, if_pos rfl]
    · rw [LState.phaseOf, h, phaseIn_assocSet, if_neg hu, LState.phaseOf]
  · have e : s'.phaseOf = s.phaseOf := by funext u; rw [LState.phaseOf, h, LState.phaseOf]
    rw [e]
    exact ⟨hp ▸ m.old, fun _ _ => rfl⟩

theorem Move.refines (m : Move compile cfgOf findOf s s' t q p dc dl dt) (h : Refines compile cfgOf findOf s) :
    Refines compile cfgOf findOf s' := by
  unfold Refines LState.linOps LState.linOuts at h ⊢
  have e1 : (tag t dl).map (·.2.1) = dl.map (·.1) := by simp only [tag, List.map_map]; rfl
  have e2 : (tag t dl).map (·.2.2) = dl.map (·.2) := by simp only [tag, List.map_map]; rfl
  rw [m.lin, List.map_append, List.map_append, run_append, h, e1, e2, m.world]

theorem Move.ordered (m : Move compile cfgOf findOf s s' t q p dc dl dt) (h : Ordered s) : Ordered s' := by
  obtain ⟨hpt, hpo⟩ := m.phaseOf
  intro u
  obtain ⟨h1, h2⟩ := h u
  simp only [LState.program, LState.linearized, LState.observed] at h1 h2 ⊢
  rw [m.calls, m.lin, m.trace, proj_append, proj_append, proj_append]
  by_cases hu : u = t
  · subst hu
    rw [m.old] at h1 h2
    simp only [proj_tag, if_true, hpt]
    constructor
    · rw [h1, List.map_append, List.append_assoc, List.append_assoc, m.call]
    · rw [h2, List.append_assoc, List.append_assoc, m.ret]
  · simp only [proj_tag, if_neg hu, List.append_nil, hpo u hu]
    exact ⟨h1, h2⟩

theorem Move.mutex (m : Move compile cfgOf findOf s s' t q p dc dl dt) (h : Mutex s) : Mutex s' := by
  obtain ⟨hpt, hpo⟩ := m.phaseOf
  have ht := h t
  rw [m.old] at ht
  intro u
  by_cases hu : u = t
  · rw [hu, hpt, m.lock]
    cases hc : q.critical with
    | false =>
      rw [hc] at ht
      cases hp : p.critical with
      | false => exact ⟨nofun, fun x => nomatch ht.mpr x⟩
      | true => exact ⟨fun _ => rfl, fun _ => rfl⟩
    | true =>
      cases hp : p.critical with
      | false => exact ⟨nofun, nofun⟩
      | true => exact ⟨fun _ => ht.mp hc, fun _ => rfl⟩
  · have ne : some t ≠ some u := fun x => hu (Option.some.inj x).symm
    rw [hpo u hu, h u, m.lock]
    cases hc : q.critical with
    | false =>
      cases hp : p.critical with
      | false => exact Iff.rfl
      | true => rw [m.free hc hp]; exact ⟨nofun, fun x => absurd x ne⟩
    | true =>
      cases hp : p.critical with
      | false => rw [ht.mp hc]; exact ⟨fun x => absurd x ne, nofun⟩
      | true => exact Iff.rfl

end

theorem reachable_inv (s : LState) (hr : Reachable compile cfgOf findOf s) :
    Mutex s ∧ Refines compile cfgOf findOf s ∧ Ordered s := by
  induction hr with
  | init =>
    refine ⟨?_, rfl, fun u => ⟨rfl, rfl⟩⟩
    intro u
    simp [LState.init, LState.phaseOf, phaseIn, LPhase.critical]
  | step _ he ih =>
    obtain ⟨t, q, p, dc, dl, dt, m, -⟩ := fire_move compile cfgOf findOf _ _ he
    exact ⟨m.mutex ih.1, m.refines ih.2.1, m.ordered ih.2.2⟩

theorem lock_mutual_exclusion (s : LState) (hr : Reachable compile cfgOf findOf s) :
    (∀ t, (s.phaseOf t).critical = true ↔ s.lock = some t) ∧
    (∀ t u, (s.phaseOf t).critical = true → (s.phaseOf u).critical = true → t = u) ∧
    (s.lock = none → ∀ t, (s.phaseOf t).critical = false) := by
  have h := (reachable_inv compile cfgOf findOf s hr).1
  refine ⟨h, ?_, ?_⟩
  · intro t u ht hu
    have a := (h t).mp ht
    have b := (h u).mp hu
    rw [a] at b
    exact Option.some.inj b
  · intro hl t
    cases hc : (s.phaseOf t).critical with
    | false => rfl
    | true => have := (h t).mp hc; rw [hl] at this; cases this

theorem lock_refines_atomic (s : LState) (hr : Reachable compile cfgOf findOf s) :
    s.world = (World.run compile cfgOf findOf World.empty s.linOps).1 ∧
    s.linOuts = (World.run compile cfgOf findOf World.empty s.linOps).2 ∧
    (∀ t, s.program t = (s.linearized t).map (·.1) ++ (s.phaseOf t).pendingCall) ∧
    (∀ t, s.linearized t = s.observed t ++ (s.phaseOf t).pendingRet) ∧
    (∀ e ∈ s.trace, e ∈ s.lin) := by
  obtain ⟨_, h2, h3⟩ := reachable_inv compile cfgOf findOf s hr
  unfold Refines at h2
  refine ⟨by rw [h2], by rw [h2], fun t => (h3 t).1, fun t => (h3 t).2, ?_⟩
  rintro ⟨t, x⟩ he
  have : x ∈ s.linearized t := by
    rw [(h3 t).2]
    exact List.mem_append_left _ (mem_proj.mpr he)
  exact mem_proj.mp this

/-- Histories only grow: the histories of a state are prefixes of the histories of every later
    state.  With `lock_refines_atomic` (a call completed in `s` is in `s.lin`; a call invoked after
    `s` is not in `s.calls`, hence not in `s.lin`) this is the real-time order across threads: a
    call that returned before another call was invoked is linearized before it. -/
theorem lock_history_monotone (s : LState) (evs : List LEvent)
    (hl : s.legal compile cfgOf findOf evs = true) :
    s.calls <+: (s.runEvents compile cfgOf findOf evs).calls ∧
    s.lin <+: (s.runEvents compile cfgOf findOf evs).lin ∧
    s.trace <+: (s.runEvents compile cfgOf findOf evs).trace := by
  induction evs generalizing s with
  | nil => exact ⟨List.prefix_refl _, List.prefix_refl _, List.prefix_refl _⟩
  | cons e es ih =>
    simp only [LState.legal, Bool.and_eq_true] at hl
    obtain ⟨a, b, c⟩ := ih _ hl.2
    simp only [LState.runEvents]
    obtain ⟨_, _, _, _, _, _, m, -⟩ := fire_move compile cfgOf findOf s e hl.1
    exact ⟨(m.calls ▸ List.prefix_append ..).trans a, (m.lin ▸ List.prefix_append ..).trans b,
      (m.trace ▸ List.prefix_append ..).trans c⟩

theorem lock_deadlock_free (s : LState) (hr : Reachable compile cfgOf findOf s) :
    (∀ h, s.lock = some h → s.enabled (.body h) = true ∨ s.enabled (.release h) = true) ∧
    (s.lock = none → ∀ t, s.phaseOf t ≠ .idle → s.enabled (.acquire t) = true) ∧
    ((∃ t, s.phaseOf t ≠ .idle) → ∃ e, e.isCall = false ∧ s.enabled e = true) := by
  obtain ⟨hm, -, hfree⟩ := lock_mutual_exclusion compile cfgOf findOf s hr
  have h1 : ∀ h, s.lock = some h → s.enabled (.body h) = true ∨ s.enabled (.release h) = true := by
    intro h hl
    have hc := (hm h).mpr hl
    cases hp : s.phaseOf h with
    | holding a cfg => exact .inl (enabled_body.mpr ⟨a, cfg, hp⟩)
    | done a cfg out => exact .inr (enabled_release.mpr ⟨a, cfg, out, hp⟩)
    | idle | waiting =>
      rw [hp] at hc
      cases hc
  have h2 : s.lock = none → ∀ t, s.phaseOf t ≠ .idle → s.enabled (.acquire t) = true := by
    intro hl t ht
    have hc := hfree hl t
    cases hp : s.phaseOf t with
    | idle => exact absurd hp ht
    | waiting a cfg => exact enabled_acquire.mpr ⟨a, cfg, hp, hl⟩
    | holding | done =>
      rw [hp] at hc
      cases hc
  refine ⟨h1, h2, ?_⟩
  rintro ⟨t, ht⟩
  cases hl : s.lock with
  | none => exact ⟨.acquire t, rfl, h2 hl t ht⟩
  | some h =>
    rcases h1 h hl with hb | hb
    · exact ⟨.body h, rfl, hb⟩
    · exact ⟨.release h, rfl, hb⟩

theorem phaseWeight_assocSet (l : List (Nat × LPhase)) (t : Nat) (p : LPhase) :
    phaseWeight (assocSet l t p) + (phaseIn l t).weight ≤ phaseWeight l + p.weight := by
  suffices h : phaseWeight (l.filter (fun q => q.1 != t)) + (phaseIn l t).weight ≤ phaseWeight l by
    simp only [assocSet, phaseWeight]; omega
  induction l with
  | nil => exact Nat.le_refl _
  | cons q r ih =>
    obtain ⟨a, b⟩ := q
    rw [phaseIn_cons]
    by_cases h : t = a
    · subst h
      rw [List.filter_cons_of_neg (by simp), if_pos rfl]
      simp only [phaseWeight]; omega
    · rw [List.filter_cons_of_pos (by simpa using Ne.symm h), if_neg h]
      simp only [phaseWeight]; omega

theorem lock_measure_decreases (s : LState) (e : LEvent) (he : s.enabled e = true)
    (hc : e.isCall = false) : (s.fire compile cfgOf findOf e).measure < s.measure := by
  obtain ⟨t, q, p, dc, dl, dt, m, -, hw⟩ := fire_move compile cfgOf findOf s e he
  have hq : (phaseIn s.phase t).weight = q.weight := congrArg LPhase.weight m.old
  have := phaseWeight_assocSet s.phase t p
  have := hw hc
  unfold LState.measure
  rcases m.phase with h | ⟨_, h⟩
  · rw [h]; omega
  · subst h; omega

theorem weight_le_three (b : LPhase) : b.weight ≤ 3 := by
  cases b <;> simp [LPhase.weight]

theorem measure_le (s : LState) : s.measure ≤ 3 * s.nonIdle := by
  unfold LState.measure LState.nonIdle
  induction s.phase with
  | nil => exact Nat.le_refl _
  | cons p r ih =>
    cases h : (p.2 != LPhase.idle)
    · have : p.2.weight = 0 := by cases hp : p.2 <;> first | rfl | simp [hp] at h
      simp only [phaseWeight, List.filter, h]
      omega
    · have := weight_le_three p.2
      simp only [phaseWeight, List.filter, h, List.length_cons]
      omega

/-- the thread ids in `phase` are distinct, so `nonIdle` counts threads -/
theorem phase_keys_nodup (s : LState) (hr : Reachable compile cfgOf findOf s) :
    (s.phase.map (·.1)).Nodup := by
  have set : ∀ (l : List (Nat × LPhase)) (t : Nat) (p : LPhase), (l.map (·.1)).Nodup →
      ((assocSet l t p).map (·.1)).Nodup := by
    intro l t p h
    simp only [assocSet, List.map_cons, List.nodup_cons]
    constructor
    · simp only [List.mem_map, List.mem_filter]
      rintro ⟨⟨a, b⟩, ⟨_, h1⟩, h2⟩
      simp at h1 h2
      exact h1 h2
    · exact h.sublist ((List.filter_sublist).map _)
  induction hr with
  | init => exact List.nodup_nil
  | @step s e _ he ih =>
    obtain ⟨t, q, p, dc, dl, dt, m, -⟩ := fire_move compile cfgOf findOf s e he
    rcases m.phase with h | ⟨h, _⟩ <;> rw [h]
    · exact set _ _ _ ih
    · exact ih

theorem progress_aux (n : Nat) (s : LState) (hr : Reachable compile cfgOf findOf s)
    (hn : s.measure < n) :
    ∃ evs : List LEvent, evs.length < n ∧ s.legal compile cfgOf findOf evs = true ∧
      (∀ e ∈ evs, e.isCall = false) ∧
      ∀ t, (s.runEvents compile cfgOf findOf evs).phaseOf t = .idle := by
  induction n generalizing s with
  | zero => cases hn
  | succ n ih =>
    by_cases hall : ∀ t, s.phaseOf t = .idle
    · exact ⟨[], Nat.zero_lt_succ _, rfl, (fun _ h => by cases h), hall⟩
    · have ⟨t, ht⟩ := Classical.not_forall.mp hall
      obtain ⟨e, hc, he⟩ := (lock_deadlock_free compile cfgOf findOf s hr).2.2 ⟨t, ht⟩
      have hd := lock_measure_decreases compile cfgOf findOf s e he hc
      obtain ⟨evs, h1, h2, h3, h4⟩ := ih (s.fire compile cfgOf findOf e) (.step hr he) (by omega)
      refine ⟨e :: evs, Nat.succ_lt_succ h1, ?_, ?_, h4⟩
      · simp only [LState.legal, he, h2, Bool.and_self]
      · intro x hx
        rcases List.mem_cons.mp hx with rfl | hx
        · exact hc
        · exact h3 x hx

/-- By `lock_measure_decreases` *every* enabled lock event is a step of such a schedule, so no
    scheduler that keeps firing enabled lock events can avoid completing the pending calls. -/
theorem lock_progress (s : LState) (hr : Reachable compile cfgOf findOf s) :
    ∃ evs : List LEvent, evs.length ≤ 3 * s.nonIdle ∧ s.legal compile cfgOf findOf evs = true ∧
      (∀ e ∈ evs, e.isCall = false) ∧
      ∀ t, (s.runEvents compile cfgOf findOf evs).phaseOf t = .idle :=
  have ⟨evs, hl, h⟩ := progress_aux compile cfgOf findOf _ s hr (Nat.lt_succ_of_le (measure_le s))
  ⟨evs, Nat.le_of_lt_succ hl, h⟩

/-- an operation cannot use both only owned and only foreign slots (every operation uses a slot) -/
theorem within_exclusive (own : Nat → Bool) (o : Op) (h : o.within (fun x => !own x) = true) :
    o.within own = false := by
  obtain ⟨hs, hi⟩ := within_slots h
  cases o with
  | build s _ | buildUncached s _ | scannerSetMode s _ | scannerCurrentMode s | findIter s _ _ =>
    simp only [Op.within, Op.scannerSlot, Eq.mp (Bool.not_eq_true' _) (hs s rfl), Bool.false_and]
  | iter k _ | dropIter k =>
    simp only [Op.within, Op.iterSlot, Eq.mp (Bool.not_eq_true' _) (hi k rfl), Bool.and_false]

theorem filter_own_eq_proj (own : Nat → Bool) (t : Nat) (lin : List (Nat × Op × Out))
    (h : ∀ e ∈ lin, e.2.1.within own = (e.1 == t)) :
    (lin.map (·.2.1)).filter (·.within own) = (proj t lin).map (·.1) ∧
    outputsOf own (lin.map (·.2.1)) (lin.map (·.2.2)) = (proj t lin).map (·.2) := by
  induction lin with
  | nil => exact ⟨rfl, rfl⟩
  | cons e r ih =>
    obtain ⟨ih1, ih2⟩ := ih fun x hx => h x (List.mem_cons_of_mem _ hx)
    simp only [proj, List.map_cons, List.filter_cons, outputsOf, h e (List.mem_cons_self ..)] at ih1 ih2 ⊢
    split
    · exact ⟨congrArg _ ih1, congrArg _ ih2⟩
    · exact ⟨ih1, ih2⟩

theorem pendingOps_eq (p : LPhase) : p.pendingRet.map (·.1) ++ p.pendingCall = p.pendingOps := by
  cases p <;> rfl

theorem lock_thread_view (s : LState) (hr : Reachable compile cfgOf findOf s) (t : Nat)
    (own : Nat → Bool)
    (hown : ∀ u op, (u, op) ∈ s.calls →
      if u = t then op.within own = true else op.within (fun x => !own x) = true) :
    (s.observed t).map (·.2) =
      (World.run compile cfgOf findOf World.empty ((s.observed t).map (·.1))).2 ∧
    s.program t = (s.observed t).map (·.1) ++ (s.phaseOf t).pendingOps ∧
    (s.phaseOf t = .idle →
      (s.observed t).map (·.2) = (World.run compile cfgOf findOf World.empty (s.program t)).2) := by
  obtain ⟨_, h2, h3⟩ := reachable_inv compile cfgOf findOf s hr
  unfold Refines at h2
  -- every linearized call was invoked, so `hown` says which entries of `lin` are within `own`
  have hcl : ∀ e ∈ s.lin, e.2.1.within own = (e.1 == t) ∧
      (e.2.1.within own = true ∨ e.2.1.within (fun x => !own x) = true) := by
    rintro ⟨u, op, out⟩ he
    have hp : op ∈ s.program u := by
      rw [(h3 u).1]
      exact List.mem_append_left _ (List.mem_map.mpr ⟨_, mem_proj.mpr he, rfl⟩)
    have := hown u op (mem_proj.mp hp)
    split at this
    · next hu => exact ⟨by rw [this, hu]; exact (beq_self_eq_true t).symm, .inl this⟩
    · next hu => exact ⟨by rw [within_exclusive own _ this]; exact (beq_false_of_ne hu).symm, .inr this⟩
  have hops : ∀ o ∈ s.linOps, o.within own = true ∨ o.within (fun x => !own x) = true := by
    intro o ho
    obtain ⟨e, he, rfl⟩ := List.mem_map.mp ho
    exact (hcl e he).2
  have hsim : SimOwn compile own World.empty World.empty :=
    ⟨(fun p hp => by cases hp), (fun p hp => by cases hp), (fun _ _ => rfl), (fun _ _ => rfl)⟩
  have hii := interleaving_independent compile cfgOf findOf own s.linOps hops _ _ hsim
  obtain ⟨f1, f2⟩ := filter_own_eq_proj own t s.lin fun e he => (hcl e he).1
  rw [h2, LState.linOps, LState.linOuts, f1, f2] at hii
  -- `hii`: the outputs at the linearization points of `t` are those of `t` alone; cut off the call in flight
  have hlin : proj t s.lin = s.observed t ++ (s.phaseOf t).pendingRet := (h3 t).2
  rw [hlin, List.map_append, List.map_append, run_append] at hii
  have hobs := (List.append_inj hii (by rw [run_length, List.length_map, List.length_map])).1
  have hprog : s.program t = (s.observed t).map (·.1) ++ (s.phaseOf t).pendingOps := by
    rw [(h3 t).1, (h3 t).2, List.map_append, List.append_assoc, pendingOps_eq]
  refine ⟨hobs, hprog, fun hidle => ?_⟩
  rw [hprog, hidle]
  exact (List.append_nil _).symm ▸ hobs

theorem reachable_of_legal (s : LState) (hr : Reachable compile cfgOf findOf s) (evs : List LEvent)
    (hl : s.legal compile cfgOf findOf evs = true) :
    Reachable compile cfgOf findOf (s.runEvents compile cfgOf findOf evs) := by
  induction evs generalizing s with
  | nil => exact hr
  | cons e es ih =>
    simp only [LState.legal, Bool.and_eq_true] at hl
    exact ih _ (.step hr hl.1) hl.2

theorem runEvents_append (s : LState) (a b : List LEvent) :
    s.runEvents compile cfgOf findOf (a ++ b) =
      (s.runEvents compile cfgOf findOf a).runEvents compile cfgOf findOf b := by
  induction a generalizing s with
  | nil => rfl
  | cons e es ih => exact ih _

theorem legal_append (s : LState) (a b : List LEvent) :
    s.legal compile cfgOf findOf (a ++ b) =
      (s.legal compile cfgOf findOf a && (s.runEvents compile cfgOf findOf a).legal compile cfgOf findOf b) := by
  induction a generalizing s with
  | nil => rfl
  | cons e es ih => simp only [List.cons_append, LState.legal, LState.runEvents, ih, Bool.and_assoc]

theorem legal_of_reachable (s : LState) (hr : Reachable compile cfgOf findOf s) :
    ∃ evs, LState.init.legal compile cfgOf findOf evs = true ∧
      LState.init.runEvents compile cfgOf findOf evs = s := by
  induction hr with
  | init => exact ⟨[], rfl, rfl⟩
  | @step s e _ he ih =>
    obtain ⟨evs, h1, rfl⟩ := ih
    refine ⟨evs ++ [e], ?_, runEvents_append compile cfgOf findOf _ evs [e]⟩
    rw [legal_append, h1, LState.legal, he]
    rfl

theorem calls_runEvents (s : LState) (evs : List LEvent)
    (hl : s.legal compile cfgOf findOf evs = true) :
    (s.runEvents compile cfgOf findOf evs).calls = s.calls ++ evs.filterMap LEvent.invocation := by
  induction evs generalizing s with
  | nil => simp [LState.runEvents]
  | cons e es ih =>
    simp only [LState.legal, Bool.and_eq_true] at hl
    simp only [LState.runEvents]
    rw [ih _ hl.2]
    obtain ⟨t, q, p, dc, dl, dt, m, hi, -⟩ := fire_move compile cfgOf findOf s e hl.1
    rw [m.calls, hi, List.append_assoc, List.filterMap_cons]
    cases e.invocation <;> rfl

/-- `lock_thread_view` for schedules: the ownership hypothesis is about the `call` events. -/
theorem lock_thread_view_events (evs : List LEvent)
    (hl : LState.init.legal compile cfgOf findOf evs = true) (t : Nat) (own : Nat → Bool)
    (hown : ∀ u op, LEvent.call u op ∈ evs →
      if u = t then op.within own = true else op.within (fun x => !own x) = true) :
    let s := LState.init.runEvents compile cfgOf findOf evs
    (s.observed t).map (·.2) =
      (World.run compile cfgOf findOf World.empty ((s.observed t).map (·.1))).2 ∧
    s.program t = (s.observed t).map (·.1) ++ (s.phaseOf t).pendingOps ∧
    (s.phaseOf t = .idle →
      (s.observed t).map (·.2) = (World.run compile cfgOf findOf World.empty (s.program t)).2) := by
  intro s
  refine lock_thread_view compile cfgOf findOf s
    (reachable_of_legal compile cfgOf findOf _ .init evs hl) t own ?_
  intro u op hm
  apply hown
  have hc := calls_runEvents compile cfgOf findOf LState.init evs hl
  change s.calls = _ at hc
  rw [hc] at hm
  simp only [LState.init, List.nil_append, List.mem_filterMap] at hm
  obtain ⟨e, he, hi⟩ := hm
  cases e with
  | call u' op' =>
    cases hi
    exact he
  | _ => cases hi

end

/-! ## non-vacuity

Two threads build the same configuration 7 (slots 0 and 10).  Thread 2 calls while thread 1 holds
the guard, so it has to wait (`acquire 2` is disabled until thread 1 released); the body of thread 1
compiles and inserts, the body of thread 2 hits the cache; both return the same compilation and the
cache holds one entry. -/

def lockExEvents : List LEvent :=
  [.call 1 (.build 0 7), .acquire 1, .call 2 (.build 10 7), .body 1, .release 1,
   .acquire 2, .body 2, .release 2]

def lockExRun (evs : List LEvent) : LState :=
  LState.init.runEvents (fun c => some (c + 100)) (fun _ => []) (fun _ _ _ => none) evs

example :
    LState.init.legal (fun c => some (c + 100)) (fun _ => []) (fun _ _ _ => none) lockExEvents = true ∧
    -- after the third event thread 1 holds the guard and thread 2 is blocked
    (lockExRun (lockExEvents.take 3)).lock = some 1 ∧
    (lockExRun (lockExEvents.take 3)).phaseOf 1 = .holding 0 7 ∧
    (lockExRun (lockExEvents.take 3)).phaseOf 2 = .waiting 10 7 ∧
    (lockExRun (lockExEvents.take 3)).enabled (.acquire 2) = false ∧
    -- both calls complete with the same compilation; one cache entry; the lock is free again
    (lockExRun lockExEvents).trace = [(1, .build 0 7, .built 107), (2, .build 10 7, .built 107)] ∧
    (lockExRun lockExEvents).lin = (lockExRun lockExEvents).trace ∧
    (lockExRun lockExEvents).world.cache = [(7, 107)] ∧
    (lockExRun lockExEvents).world.scanners = [(10, ⟨107, 0⟩), (0, ⟨107, 0⟩)] ∧
    (lockExRun lockExEvents).lock = none ∧
    (lockExRun lockExEvents).phaseOf 1 = .idle ∧ (lockExRun lockExEvents).phaseOf 2 = .idle := by
  decide +kernel

end Scnr

import ScnrVerif.Model.Regex
/-!
# `Matches` operator by operator; partial derivatives; expressions with the same language

Inversion lemmas for `Matches` by operator (for `star` the induction is done where it is needed:
`star_mono`, `pderiv_complete`). `SameLang` relates two expressions under two class functions; it
is a congruence for every operator.
-/
namespace Scnr

theorem matches_void {cm : Nat → Nat → Bool} {w : List Nat} : ¬ Matches cm .void w := by
  intro h; cases h

theorem matches_eps_iff {cm : Nat → Nat → Bool} {w : List Nat} : Matches cm .eps w ↔ w = [] := by
  constructor
  · intro h; cases h; rfl
  · rintro rfl; exact .eps

theorem matches_cls_iff {cm : Nat → Nat → Bool} {id : Nat} {w : List Nat} :
    Matches cm (.cls id) w ↔ ∃ c, w = [c] ∧ cm id c = true := by
  constructor
  · intro h
    cases h with
    | cls hc => exact ⟨_, rfl, hc⟩
  · rintro ⟨c, rfl, hc⟩
    exact .cls hc

theorem matches_cat_iff {cm : Nat → Nat → Bool} {a b : Re} {w : List Nat} :
    Matches cm (.cat a b) w ↔ ∃ u v, w = u ++ v ∧ Matches cm a u ∧ Matches cm b v := by
  constructor
  · intro h
    cases h with
    | cat ha hb => exact ⟨_, _, rfl, ha, hb⟩
  · rintro ⟨u, v, rfl, ha, hb⟩
    exact .cat ha hb

theorem matches_alt_iff {cm : Nat → Nat → Bool} {a b : Re} {w : List Nat} :
    Matches cm (.alt a b) w ↔ Matches cm a w ∨ Matches cm b w := by
  constructor
  · intro h
    cases h with
    | altL h => exact .inl h
    | altR h => exact .inr h
  · rintro (h | h)
    · exact .altL h
    · exact .altR h

theorem matches_eps_cat {cm : Nat → Nat → Bool} {b : Re} {w : List Nat} :
    Matches cm (.cat .eps b) w ↔ Matches cm b w := by
  simp only [matches_cat_iff, matches_eps_iff]
  constructor
  · rintro ⟨_, v, rfl, rfl, h⟩; exact h
  · intro h; exact ⟨[], w, rfl, rfl, h⟩

theorem matches_cat_eps {cm : Nat → Nat → Bool} {a : Re} {w : List Nat} :
    Matches cm (.cat a .eps) w ↔ Matches cm a w := by
  simp only [matches_cat_iff, matches_eps_iff]
  constructor
  · rintro ⟨u, _, rfl, h, rfl⟩; rw [List.append_nil]; exact h
  · intro h; exact ⟨w, [], (List.append_nil w).symm, h, rfl⟩

theorem matches_cat_assoc {cm : Nat → Nat → Bool} {a b c : Re} {w : List Nat} :
    Matches cm (.cat (.cat a b) c) w ↔ Matches cm (.cat a (.cat b c)) w := by
  constructor
  · intro h
    cases h with
    | cat hab hc =>
      cases hab with
      | cat ha hb => rw [List.append_assoc]; exact .cat ha (.cat hb hc)
  · intro h
    cases h with
    | cat ha hbc =>
      cases hbc with
      | cat hb hc => rw [← List.append_assoc]; exact .cat (.cat ha hb) hc

theorem matches_opt_iff {cm : Nat → Nat → Bool} {r : Re} {w : List Nat} :
    Matches cm (Re.opt r) w ↔ Matches cm r w ∨ w = [] := by
  unfold Re.opt
  rw [matches_alt_iff, matches_eps_iff]

theorem matches_pow_zero {cm : Nat → Nat → Bool} {r : Re} {w : List Nat} :
    Matches cm (Re.pow r 0) w ↔ w = [] := matches_eps_iff

theorem matches_pow_succ {cm : Nat → Nat → Bool} {r : Re} {n : Nat} {w : List Nat} :
    Matches cm (Re.pow r (n + 1)) w ↔ ∃ u v, w = u ++ v ∧ Matches cm r u ∧ Matches cm (Re.pow r n) v :=
  matches_cat_iff

theorem matches_catList_cons {cm : Nat → Nat → Bool} {r : Re} {rs : List Re} {w : List Nat} :
    Matches cm (Re.catList (r :: rs)) w ↔ ∃ u v, w = u ++ v ∧ Matches cm r u ∧ Matches cm (Re.catList rs) v := by
  cases rs with
  | nil => exact matches_cat_eps.symm.trans matches_cat_iff
  | cons r' rs => exact matches_cat_iff

theorem matches_altList_cons {cm : Nat → Nat → Bool} {r : Re} {rs : List Re} {w : List Nat} :
    Matches cm (Re.altList (r :: rs)) w ↔ Matches cm r w ∨ Matches cm (Re.altList rs) w := by
  cases rs with
  | nil => simp only [Re.altList, matches_void, or_false]
  | cons r' rs => exact matches_alt_iff

theorem nullable_iff {cm : Nat → Nat → Bool} {r : Re} : r.nullable = true ↔ Matches cm r [] := by
  induction r with
  | void => simp [Re.nullable, matches_void]
  | eps => simp [Re.nullable, matches_eps_iff]
  | cls id => simp [Re.nullable, matches_cls_iff]
  | cat a b iha ihb => simp [Re.nullable, matches_cat_iff, iha, ihb, and_assoc]
  | alt a b iha ihb => simp [Re.nullable, matches_alt_iff, iha, ihb]
  | star a _ => simp [Re.nullable, Matches.starNil]

theorem matches_seq {cm : Nat → Nat → Bool} {a b : Re} {w : List Nat} :
    Matches cm (Re.seq a b) w ↔ Matches cm (.cat a b) w := by
  cases a with
  | eps => exact matches_eps_cat.symm
  | _ => exact Iff.rfl

theorem pderiv_sound {cm : Nat → Nat → Bool} {c : Nat} {r r' : Re} {w : List Nat}
    (hm : r' ∈ pderiv cm c r) (h : Matches cm r' w) : Matches cm r (c :: w) := by
  induction r generalizing r' w with
  | void => simp [pderiv] at hm
  | eps => simp [pderiv] at hm
  | cls id =>
    simp only [pderiv] at hm
    by_cases hc : cm id c = true
    · simp only [hc, if_true, List.mem_singleton] at hm
      subst hm
      rw [matches_eps_iff.mp h]
      exact .cls hc
    · simp [hc] at hm
  | cat a b iha ihb =>
    simp only [pderiv, List.mem_append, List.mem_map] at hm
    rcases hm with ⟨a', ha', rfl⟩ | hm
    · have := matches_seq.mp h
      cases this with
      | cat hu hv => exact Matches.cat (iha ha' hu) hv
    · by_cases hn : a.nullable = true
      · simp only [hn, if_true] at hm
        exact (List.nil_append (c :: w)) ▸ Matches.cat (nullable_iff.mp hn) (ihb hm h)
      · simp [hn] at hm
  | alt a b iha ihb =>
    simp only [pderiv, List.mem_append] at hm
    rcases hm with hm | hm
    · exact .altL (iha hm h)
    · exact .altR (ihb hm h)
  | star a iha =>
    simp only [pderiv, List.mem_map] at hm
    obtain ⟨a', ha', rfl⟩ := hm
    have := matches_seq.mp h
    cases this with
    | cat hu hv => exact Matches.starCons (iha ha' hu) hv

theorem pderiv_complete {cm : Nat → Nat → Bool} {c : Nat} {r : Re} {w x : List Nat}
    (h : Matches cm r x) (hx : x = c :: w) : ∃ r' ∈ pderiv cm c r, Matches cm r' w := by
  induction h generalizing c w with
  | eps => cases hx
  | @cls id c' hc =>
    simp only [List.cons.injEq] at hx
    obtain ⟨rfl, rfl⟩ := hx
    exact ⟨.eps, by simp [pderiv, hc], .eps⟩
  | @cat a b u v ha hb iha ihb =>
    cases u with
    | nil =>
      simp only [List.nil_append] at hx
      obtain ⟨r', hr', hm⟩ := ihb hx
      refine ⟨r', ?_, hm⟩
      simp only [pderiv, List.mem_append]
      right
      simp [nullable_iff.mpr ha, hr']
    | cons c' u' =>
      simp only [List.cons_append, List.cons.injEq] at hx
      obtain ⟨rfl, rfl⟩ := hx
      obtain ⟨a', ha', hm⟩ := iha rfl
      refine ⟨Re.seq a' b, ?_, matches_seq.mpr (Matches.cat hm hb)⟩
      simp only [pderiv, List.mem_append, List.mem_map]
      exact Or.inl ⟨a', ha', rfl⟩
  | altL _ ih =>
    obtain ⟨r', hr', hm⟩ := ih hx
    exact ⟨r', by simp [pderiv, hr'], hm⟩
  | altR _ ih =>
    obtain ⟨r', hr', hm⟩ := ih hx
    exact ⟨r', by simp [pderiv, hr'], hm⟩
  | starNil => cases hx
  | @starCons a u v ha hs iha ihs =>
    cases u with
    | nil =>
      simp only [List.nil_append] at hx
      exact ihs hx
    | cons c' u' =>
      simp only [List.cons_append, List.cons.injEq] at hx
      obtain ⟨rfl, rfl⟩ := hx
      obtain ⟨a', ha', hm⟩ := iha rfl
      refine ⟨Re.seq a' (.star a), ?_, matches_seq.mpr (Matches.cat hm hs)⟩
      simp only [pderiv, List.mem_map]
      exact ⟨a', ha', rfl⟩

theorem matches_cons_iff {cm : Nat → Nat → Bool} {c : Nat} {r : Re} {w : List Nat} :
    Matches cm r (c :: w) ↔ ∃ r' ∈ pderiv cm c r, Matches cm r' w :=
  ⟨fun h => pderiv_complete h rfl, fun ⟨_, hr', hm⟩ => pderiv_sound hr' hm⟩

theorem pderiv_congr {cm : Nat → Nat → Bool} {c d : Nat} (h : ∀ id, cm id c = cm id d) (r : Re) :
    pderiv cm c r = pderiv cm d r := by
  induction r with
  | void => rfl
  | eps => rfl
  | cls id => simp [pderiv, h id]
  | cat a b iha ihb => simp [pderiv, iha, ihb]
  | alt a b iha ihb => simp [pderiv, iha, ihb]
  | star a iha => simp [pderiv, iha]

/-- two (class function, expression) pairs with the same language -/
def SameLang (cm1 cm2 : Nat → Nat → Bool) (a b : Re) : Prop := ∀ w, Matches cm1 a w ↔ Matches cm2 b w

theorem sameLang_eps (cm1 cm2 : Nat → Nat → Bool) : SameLang cm1 cm2 .eps .eps := by
  intro w; rw [matches_eps_iff, matches_eps_iff]

theorem sameLang_cls {cm1 cm2 : Nat → Nat → Bool} {c c' : Nat} (h : ∀ ch, cm1 c ch = cm2 c' ch) :
    SameLang cm1 cm2 (.cls c) (.cls c') := by
  intro w; simp only [matches_cls_iff, h]

theorem sameLang_cat {cm1 cm2 : Nat → Nat → Bool} {a a' b b' : Re} (h1 : SameLang cm1 cm2 a a') (h2 : SameLang cm1 cm2 b b') :
    SameLang cm1 cm2 (.cat a b) (.cat a' b') := by
  intro w; simp only [matches_cat_iff, h1 _, h2 _]

theorem sameLang_alt {cm1 cm2 : Nat → Nat → Bool} {a a' b b' : Re} (h1 : SameLang cm1 cm2 a a') (h2 : SameLang cm1 cm2 b b') :
    SameLang cm1 cm2 (.alt a b) (.alt a' b') := by
  intro w; rw [matches_alt_iff, matches_alt_iff, h1 w, h2 w]

theorem star_mono {cm1 cm2 : Nat → Nat → Bool} {a a' : Re} (h : ∀ w, Matches cm1 a w → Matches cm2 a' w) :
    ∀ w, Matches cm1 (.star a) w → Matches cm2 (.star a') w := by
  intro w hw
  generalize hr : Re.star a = r at hw
  induction hw with
  | starNil => exact .starNil
  | starCons h1 _ _ ih2 =>
    cases hr
    exact .starCons (h _ h1) (ih2 rfl)
  | _ => cases hr

theorem sameLang_star {cm1 cm2 : Nat → Nat → Bool} {a a' : Re} (h : SameLang cm1 cm2 a a') :
    SameLang cm1 cm2 (.star a) (.star a') :=
  fun w => ⟨star_mono (fun u => (h u).mp) w, star_mono (fun u => (h u).mpr) w⟩

theorem sameLang_pow {cm1 cm2 : Nat → Nat → Bool} {a a' : Re} (h : SameLang cm1 cm2 a a') (n : Nat) :
    SameLang cm1 cm2 (Re.pow a n) (Re.pow a' n) := by
  induction n with
  | zero => exact sameLang_eps cm1 cm2
  | succ n ih => exact sameLang_cat h ih

theorem sameLang_opt {cm1 cm2 : Nat → Nat → Bool} {a a' : Re} (h : SameLang cm1 cm2 a a') :
    SameLang cm1 cm2 (Re.opt a) (Re.opt a') := sameLang_alt h (sameLang_eps cm1 cm2)

theorem sameLang_eps_cat {cm1 cm2 : Nat → Nat → Bool} {a b : Re} (h : SameLang cm1 cm2 a b) :
    SameLang cm1 cm2 a (.cat .eps b) :=
  fun w => (h w).trans matches_eps_cat.symm

theorem sameLang_cat_eps {cm1 cm2 : Nat → Nat → Bool} {a b : Re} (h : SameLang cm1 cm2 a b) :
    SameLang cm1 cm2 a (.cat b .eps) :=
  fun w => (h w).trans matches_cat_eps.symm

/-- pointwise `SameLang` -/
inductive AllSame (cm1 cm2 : Nat → Nat → Bool) : List Re → List Re → Prop where
  | nil : AllSame cm1 cm2 [] []
  | cons {x y : Re} {xs ys : List Re} : SameLang cm1 cm2 x y → AllSame cm1 cm2 xs ys → AllSame cm1 cm2 (x :: xs) (y :: ys)

theorem sameLang_catList {cm1 cm2 : Nat → Nat → Bool} {xs ys : List Re} (h : AllSame cm1 cm2 xs ys) :
    SameLang cm1 cm2 (Re.catList xs) (Re.catList ys) := by
  induction h with
  | nil => exact sameLang_eps cm1 cm2
  | cons h _ ih => intro w; simp only [matches_catList_cons, h _, ih _]

theorem sameLang_altList {cm1 cm2 : Nat → Nat → Bool} {xs ys : List Re} (h : AllSame cm1 cm2 xs ys) :
    SameLang cm1 cm2 (Re.altList xs) (Re.altList ys) := by
  induction h with
  | nil => intro w; simp only [Re.altList, matches_void]
  | cons h _ ih => intro w; rw [matches_altList_cons, matches_altList_cons, h w, ih w]

theorem derivFold_spec (cm) (w : List Nat) (rs : List Re) :
    (w.foldl (fun rs c => derivStep cm c rs) rs).any Re.nullable = true ↔ ∃ r ∈ rs, Matches cm r w := by
  induction w generalizing rs with
  | nil =>
    simp only [List.foldl_nil, List.any_eq_true]
    constructor
    · rintro ⟨r, hr, hn⟩; exact ⟨r, hr, nullable_iff.mp hn⟩
    · rintro ⟨r, hr, hm⟩; exact ⟨r, hr, nullable_iff.mpr hm⟩
  | cons c w ih =>
    simp only [List.foldl_cons]
    rw [ih]
    simp only [derivStep, List.mem_eraseDups, List.mem_flatMap]
    constructor
    · rintro ⟨r', ⟨r, hr, hd⟩, hm⟩
      exact ⟨r, hr, matches_cons_iff.mpr ⟨r', hd, hm⟩⟩
    · rintro ⟨r, hr, hm⟩
      obtain ⟨r', hd, hm'⟩ := matches_cons_iff.mp hm
      exact ⟨r', ⟨r, hr, hd⟩, hm'⟩

theorem matchesBool_iff (cm) (r : Re) (w : List Nat) : matchesBool cm r w = true ↔ Matches cm r w := by
  unfold matchesBool
  rw [derivFold_spec]
  simp

end Scnr

import ScnrVerif.Proofs.ThompsonTables
import ScnrVerif.Proofs.Basics
/-!
# The Thompson operations on NFAs with base 0

For each operation: its state table (`*_states`), what has become of the operands (`*_left`, `*_right`,
`*_part`: they keep their edges; the new content of their end states), the new states, that the result
is again `Ok`, and its language.
-/
namespace Scnr

namespace Nfa

variable {r a b : Nfa} {L : List Nat}

theorem empty_ok : Nfa.empty.Ok :=
  Ok.of_table (n := 1) (s := 0) rfl
    (List.forall_mem_singleton.mpr (.of_eps fun _ h => nomatch h)) rfl rfl (by decide) (by decide) rfl

theorem empty_accepts (cm : Nat → Nat → Bool) (w : List Nat) : Nfa.empty.Accepts cm w ↔ w = [] := by
  constructor
  · intro h; exact (Path.of_no_edges rfl rfl h).1
  · rintro rfl; exact .nil _

theorem eq_empty_of_isEmpty {a : Nfa} (h : a.isEmpty = true) (ha0 : a.base = 0) : a = Nfa.empty := by
  obtain ⟨base, states, start, fin⟩ := a
  simp only at ha0
  subst ha0
  simp only [Nfa.isEmpty, Bool.and_eq_true, beq_iff_eq] at h
  obtain ⟨⟨⟨rfl, rfl⟩, _⟩, h4⟩ := h
  match states, h4 with
  | [⟨e, t⟩], h4 =>
    simp only [Bool.and_eq_true, List.isEmpty_iff] at h4
    obtain ⟨rfl, rfl⟩ := h4
    rfl

theorem concat_of_isEmpty {a b : Nfa} (h : a.isEmpty = true) (ha0 : a.base = 0) (hb0 : b.base = 0) :
    a.concat b = b := by
  simp only [Nfa.concat, h, if_true, ha0]
  obtain ⟨base, states, start, fin⟩ := b
  simp only at hb0
  subst hb0
  rfl

theorem concat_states (ha : a.Ok) (hne : a.isEmpty = false) : (a.concat b).states =
    a.states.modify a.fin (addE (b.start + a.states.length)) ++ (b.shift a.states.length).states := by
  simp only [Nfa.concat, hne, Nfa.addEps, Nfa.modifyState, ha.base, Nat.sub_zero]
  exact modify_append_left _ _ ha.fin_lt

theorem concat_base (hne : a.isEmpty = false) : (a.concat b).base = a.base := by simp only [Nfa.concat, hne]; rfl
theorem concat_start (hne : a.isEmpty = false) : (a.concat b).start = a.start := by simp only [Nfa.concat, hne]; rfl
theorem concat_fin (hne : a.isEmpty = false) : (a.concat b).fin = b.fin + a.states.length := by
  simp only [Nfa.concat, hne]; rfl

theorem concat_left (ha : a.Ok) (hne : a.isEmpty = false) :
    Ext (a.concat b) a ∧ (a.concat b).state a.fin = ⟨[b.start + a.states.length], []⟩ :=
  Ext.of_table (pre := []) ((concat_base hne).trans ha.base) ha.wf ha.base (Nat.zero_add _).symm
    (concat_states ha hne) rfl

theorem concat_right (ha : a.Ok) (hb : b.Ok) (hne : a.isEmpty = false) :
    Ext (a.concat b) (b.shift a.states.length) ∧ (a.concat b).state (b.fin + a.states.length) = ⟨[], []⟩ :=
  Ext.of_table_same (post := []) ((concat_base hne).trans ha.base) (shift_wf b _ hb.wf) (shift_behind hb _ _).1
    ((concat_states ha hne).trans (List.append_nil _).symm)

theorem concat_ok (ha : a.Ok) (hb : b.Ok) : (a.concat b).Ok := by
  cases hne : a.isEmpty with
  | true => rw [concat_of_isEmpty hne ha.base hb.base]; exact hb
  | false =>
    have hst := ha.start_lt
    have hsh : ∀ t, t < b.states.length →
        t + a.states.length < a.states.length + b.states.length ∧ t + a.states.length ≠ a.start :=
      fun t ht => ⟨by omega, by omega⟩
    refine Ok.of_table (n := a.states.length + b.states.length) ((concat_base hne).trans ha.base) ?_ ?_
      (concat_start hne) (Nat.lt_add_right _ hst) ?_ ?_
    · rw [concat_states ha hne]
      exact List.forall_mem_append.mpr ⟨forall_mem_modify (fun _ h => h.addE (hsh _ hb.start_lt))
        (ha.table fun _ ht hne => ⟨Nat.lt_add_right _ ht, hne⟩), hb.shift_table hsh⟩
    · rw [concat_states ha hne, List.length_append, List.length_modify, shift_len]
    · rw [concat_fin hne]; exact (hsh _ hb.fin_lt).1
    · rw [concat_fin hne]; exact (concat_right ha hb hne).2

theorem concat_accepts (ha : a.Ok) (hb : b.Ok) (cm : Nat → Nat → Bool) (w : List Nat) :
    (a.concat b).Accepts cm w ↔ ∃ u v, w = u ++ v ∧ a.Accepts cm u ∧ b.Accepts cm v := by
  cases hne : a.isEmpty with
  | true =>
    rw [concat_of_isEmpty hne ha.base hb.base, eq_empty_of_isEmpty hne ha.base]
    constructor
    · intro h; exact ⟨[], w, rfl, .nil _, h⟩
    · rintro ⟨u, v, rfl, h1, h2⟩
      rw [(empty_accepts cm u).mp h1]; exact h2
  | false =>
    have hb' := shift_wf b a.states.length hb.wf
    obtain ⟨hxl, hfin⟩ := concat_left (b := b) ha hne
    obtain ⟨hxr, hend⟩ := concat_right ha hb hne
    have hfe : ((a.concat b).state (b.shift a.states.length).fin).eps = [] := by
      show ((a.concat b).state (b.fin + a.states.length)).eps = []
      rw [hend]
    unfold Nfa.Accepts
    rw [concat_start hne, concat_fin hne]
    constructor
    · intro h
      rcases hxl.exit ha.wf ha.wf.start_in h with h | ⟨u, v, x, rfl, h1, h2, h3⟩
      · -- a run that stays in `a` ends below `a.states.length`; the end state of the result lies behind it
        have h1 := (contains0 ha.base _).mp (Path.contains_end ha.wf ha.wf.start_in h)
        omega
      · rw [hfin, List.mem_singleton] at h2
        subst h2
        exact ⟨u, v, rfl, h1, (shift_accepts b _ cm v).mp (hxr.closed hb' hfe hb'.start_in h3)⟩
    · rintro ⟨u, v, rfl, h1, h2⟩
      refine Path.trans (hxl.embed ha.wf h1) (.eps (hxl.cont _ ha.wf.fin_in) ?_
        (hxr.embed hb' ((shift_accepts b a.states.length cm v).mpr h2)))
      rw [hfin]
      exact List.mem_singleton.mpr rfl

theorem zeroOrOne_states (ha : a.Ok) : a.zeroOrOne.states = a.states ++ [⟨[a.start, a.fin], []⟩] := by
  simp only [Nfa.zeroOrOne, Nfa.newState, Nfa.addEps, Nfa.modifyState, ha.base, Nat.sub_zero, modify_length_snoc]
  rfl

theorem zeroOrOne_base (ha : a.Ok) : a.zeroOrOne.base = 0 := by
  simp only [Nfa.zeroOrOne, Nfa.newState, Nfa.addEps, Nfa.modifyState]; exact ha.base

theorem zeroOrOne_part (ha : a.Ok) : Ext a.zeroOrOne a ∧ a.zeroOrOne.state a.fin = ⟨[], []⟩ :=
  Ext.of_table_same (pre := []) (post := [_]) (zeroOrOne_base ha) ha.wf ha.base (zeroOrOne_states ha)

theorem zeroOrOne_state_start (ha : a.Ok) : a.zeroOrOne.state a.states.length = ⟨[a.start, a.fin], []⟩ :=
  state_behind (zeroOrOne_base ha) (zeroOrOne_states ha) rfl 0

theorem zeroOrOne_ok (ha : a.Ok) : a.zeroOrOne.Ok := by
  refine Ok.of_table (n := a.states.length + 1) (s := a.states.length) (zeroOrOne_base ha) ?_ ?_ rfl
    (Nat.lt_succ_self _) (Nat.lt_succ_of_lt ha.fin_lt) (zeroOrOne_part ha).2
  · rw [zeroOrOne_states ha]
    exact List.forall_mem_append.mpr ⟨ha.table fun _ ht _ => lt_and_ne ht 1, List.forall_mem_singleton.mpr
      (.of_eps (forall_mem_pair (lt_and_ne ha.start_lt 1) (lt_and_ne ha.fin_lt 1)))⟩
  · rw [zeroOrOne_states ha, List.length_append, List.length_singleton]

theorem zeroOrOne_accepts (ha : a.Ok) (cm : Nat → Nat → Bool) (w : List Nat) :
    a.zeroOrOne.Accepts cm w ↔ a.Accepts cm w ∨ w = [] := by
  have hf := ha.fin_lt
  obtain ⟨hx, hfin⟩ := zeroOrOne_part ha
  have hfe : (a.zeroOrOne.state a.fin).eps = [] := by rw [hfin]
  have hsc : a.zeroOrOne.contains a.states.length = true := (zeroOrOne_ok ha).wf.start_in
  show a.zeroOrOne.Path cm a.states.length w a.fin ↔ _
  rw [Path.from_eps_iff hsc (zeroOrOne_state_start ha) (Nat.ne_of_gt hf)]
  constructor
  · rintro ⟨x, hx1, hx2⟩
    rcases List.mem_cons.mp hx1 with rfl | hx1
    · exact .inl (hx.closed ha.wf hfe ha.wf.start_in hx2)
    · rw [List.mem_singleton.mp hx1] at hx2
      exact .inr (Path.from_fin ha.wf (hx.closed ha.wf hfe ha.wf.fin_in hx2)).1
  · rintro (h | rfl)
    · exact ⟨a.start, List.mem_cons_self, hx.embed ha.wf h⟩
    · exact ⟨a.fin, List.mem_cons_of_mem _ List.mem_cons_self, .nil _⟩

/-- the table of `+` and `*`: `a.fin` leads to the new end state and back to `a.start`; the new start
    state has the ε-edges `L` -/
structure Loop (r a : Nfa) (L : List Nat) : Prop where
  base : r.base = 0
  states : r.states =
    a.states.modify a.fin (addE a.start ∘ addE (a.states.length + 1)) ++ [⟨L, []⟩, ⟨[], []⟩]
  start : r.start = a.states.length
  fin : r.fin = a.states.length + 1

theorem Loop.part (h : Loop r a L) (ha : a.Ok) :
    Ext r a ∧ r.state a.fin = ⟨[a.states.length + 1, a.start], []⟩ :=
  Ext.of_table (pre := []) h.base ha.wf ha.base (Nat.zero_add _).symm h.states rfl

theorem Loop.state_start (h : Loop r a L) : r.state a.states.length = ⟨L, []⟩ :=
  state_behind h.base h.states (List.length_modify ..) 0

theorem Loop.state_end (h : Loop r a L) : r.state (a.states.length + 1) = ⟨[], []⟩ :=
  state_behind h.base h.states (List.length_modify ..) 1

theorem Loop.ok (h : Loop r a L) (ha : a.Ok) (hL : ∀ t ∈ L, t < a.states.length) : r.Ok := by
  refine Ok.of_table (n := a.states.length + 2) h.base ?_ ?_ h.start (Nat.lt_add_of_pos_right (by decide)) ?_ ?_
  · rw [h.states]
    exact List.forall_mem_append.mpr ⟨forall_mem_modify
      (fun _ h => (h.addE ⟨Nat.lt_succ_self _, Nat.succ_ne_self _⟩).addE (lt_and_ne ha.start_lt 2))
      (ha.table fun _ ht _ => lt_and_ne ht 2),
      forall_mem_pair (.of_eps fun t ht => lt_and_ne (hL t ht) 2) (.of_eps fun _ h => nomatch h)⟩
  · rw [h.states, List.length_append, List.length_modify]; rfl
  · rw [h.fin]; exact Nat.lt_succ_self _
  · rw [h.fin]; exact h.state_end

theorem Loop.accepts (h : Loop r a L) (ha : a.Ok) (hL : ∀ t ∈ L, t < a.states.length) {cm : Nat → Nat → Bool} {R : Re}
    (hlang : ∀ w, a.Accepts cm w ↔ Matches cm R w) (w : List Nat) :
    r.Accepts cm w ↔ ∃ x ∈ L, ∃ u v, w = u ++ v ∧ a.Path cm x u a.fin ∧ Matches cm (.star R) v := by
  have hsc := (h.ok ha hL).wf.start_in
  unfold Nfa.Accepts
  rw [h.start] at hsc ⊢
  rw [h.fin, Path.from_eps_iff hsc h.state_start (Nat.ne_of_lt (Nat.lt_add_one _))]
  exact exists_congr fun x => and_congr_right fun hx => (h.part ha).1.loop_iff ha.wf hlang (h.part ha).2 h.state_end
    (not_contains0 ha.base (Nat.le_succ _)) ((contains0 ha.base x).mpr (hL x hx))

theorem oneOrMore_loop (ha : a.Ok) : Loop a.oneOrMore a [a.start] where
  base := by simp only [Nfa.oneOrMore, Nfa.newState, Nfa.addEps, Nfa.modifyState]; exact ha.base
  states := by
    simp only [Nfa.oneOrMore, Nfa.newState, Nfa.addEps, Nfa.modifyState, ha.base, Nat.sub_zero,
      List.modify_modify_eq, modify_length_snoc, List.append_assoc]
    rw [modify_append_left _ _ ha.fin_lt]
    simp only [List.length_append, List.length_singleton]
    rfl
  start := rfl
  fin := by simp only [Nfa.oneOrMore, Nfa.newState, addEps_len, List.length_append, List.length_singleton]

theorem oneOrMore_ok (ha : a.Ok) : a.oneOrMore.Ok :=
  (oneOrMore_loop ha).ok ha (List.forall_mem_singleton.mpr ha.start_lt)

theorem oneOrMore_accepts (ha : a.Ok) (cm : Nat → Nat → Bool) (R : Re)
    (hlang : ∀ w, a.Accepts cm w ↔ Matches cm R w) (w : List Nat) :
    a.oneOrMore.Accepts cm w ↔ Matches cm (.cat R (.star R)) w := by
  rw [(oneOrMore_loop ha).accepts ha (List.forall_mem_singleton.mpr ha.start_lt) hlang, matches_cat_iff]
  constructor
  · rintro ⟨x, hx, u, v, rfl, h1, h2⟩
    rw [List.mem_singleton.mp hx] at h1
    exact ⟨u, v, rfl, (hlang u).mp h1, h2⟩
  · rintro ⟨u, v, rfl, h1, h2⟩
    exact ⟨a.start, List.mem_singleton.mpr rfl, u, v, rfl, (hlang u).mpr h1, h2⟩

theorem zeroOrMore_loop (ha : a.Ok) : Loop a.zeroOrMore a [a.start, a.fin] where
  base := by simp only [Nfa.zeroOrMore, Nfa.newState, Nfa.addEps, Nfa.modifyState]; exact ha.base
  states := by
    simp only [Nfa.zeroOrMore, Nfa.newState, Nfa.addEps, Nfa.modifyState, ha.base, Nat.sub_zero,
      List.modify_modify_eq, modify_length_snoc, List.append_assoc]
    rw [modify_append_left _ _ ha.fin_lt]
    simp only [List.length_append, List.length_singleton]
    rfl
  start := rfl
  fin := by simp only [Nfa.zeroOrMore, Nfa.newState, addEps_len, List.length_append, List.length_singleton]

theorem zeroOrMore_ok (ha : a.Ok) : a.zeroOrMore.Ok :=
  (zeroOrMore_loop ha).ok ha (forall_mem_pair ha.start_lt ha.fin_lt)

theorem zeroOrMore_accepts (ha : a.Ok) (cm : Nat → Nat → Bool) (R : Re)
    (hlang : ∀ w, a.Accepts cm w ↔ Matches cm R w) (w : List Nat) :
    a.zeroOrMore.Accepts cm w ↔ Matches cm (.star R) w := by
  rw [(zeroOrMore_loop ha).accepts ha (forall_mem_pair ha.start_lt ha.fin_lt) hlang]
  constructor
  · rintro ⟨x, hx, u, v, rfl, h1, h2⟩
    rcases List.mem_cons.mp hx with rfl | hx
    · exact .starCons ((hlang u).mp h1) h2
    · rw [List.mem_singleton.mp hx] at h1
      obtain ⟨rfl, _⟩ := Path.from_fin ha.wf h1
      exact h2
  · intro h
    exact ⟨a.fin, List.mem_cons_of_mem _ List.mem_cons_self, [], w, rfl, .nil _, h⟩

theorem alternation_states (ha : a.Ok) (hb : b.Ok) : (a.alternation b).states =
    a.states.modify a.fin (addE (a.states.length + b.states.length + 1)) ++
      (b.shift a.states.length).states.modify b.fin (addE (a.states.length + b.states.length + 1)) ++
        [⟨[a.start, b.start + a.states.length], []⟩, ⟨[], []⟩] := by
  have hbf : b.fin < (b.shift a.states.length).states.length := by rw [shift_len]; exact hb.fin_lt
  simp only [Nfa.alternation, Nfa.newState, Nfa.addEps, Nfa.modifyState, ha.base, Nat.sub_zero, modify_length_snoc]
  rw [List.append_assoc, List.append_assoc, modify_append_left _ _ ha.fin_lt,
    modify_append_right (j := b.fin) _ _ (shift_behind hb _ _).2, modify_append_left _ _ hbf, ← List.append_assoc]
  simp only [List.length_append, List.length_singleton, shift_len]
  rfl

theorem alternation_base (ha : a.Ok) : (a.alternation b).base = 0 := by
  simp only [Nfa.alternation, Nfa.newState, Nfa.addEps, Nfa.modifyState]; exact ha.base
theorem alternation_start : (a.alternation b).start = a.states.length + b.states.length := by
  simp only [Nfa.alternation, Nfa.newState, List.length_append, shift_len]
theorem alternation_fin : (a.alternation b).fin = a.states.length + b.states.length + 1 := by
  simp only [Nfa.alternation, Nfa.newState, addEps_len, List.length_append, List.length_singleton, shift_len]

theorem alternation_left (ha : a.Ok) (hb : b.Ok) : Ext (a.alternation b) a ∧
    (a.alternation b).state a.fin = ⟨[a.states.length + b.states.length + 1], []⟩ :=
  Ext.of_table (pre := []) (alternation_base ha) ha.wf ha.base (Nat.zero_add _).symm
    ((alternation_states ha hb).trans (List.append_assoc ..)) rfl

theorem alternation_right (ha : a.Ok) (hb : b.Ok) : Ext (a.alternation b) (b.shift a.states.length) ∧
    (a.alternation b).state (b.fin + a.states.length) = ⟨[a.states.length + b.states.length + 1], []⟩ :=
  Ext.of_table (alternation_base ha) (shift_wf b _ hb.wf) (shift_behind hb _ _).1 (shift_behind hb _ _).2
    (alternation_states ha hb) rfl

theorem alternation_state_start (ha : a.Ok) (hb : b.Ok) :
    (a.alternation b).state (a.states.length + b.states.length) = ⟨[a.start, b.start + a.states.length], []⟩ :=
  state_behind (n := a.states.length + b.states.length) (alternation_base ha) (alternation_states ha hb)
    (by rw [List.length_append, List.length_modify, List.length_modify, shift_len]) 0

theorem alternation_state_end (ha : a.Ok) (hb : b.Ok) :
    (a.alternation b).state (a.states.length + b.states.length + 1) = ⟨[], []⟩ :=
  state_behind (alternation_base ha) (alternation_states ha hb)
    (by rw [List.length_append, List.length_modify, List.length_modify, shift_len]) 1

theorem alternation_ok (ha : a.Ok) (hb : b.Ok) : (a.alternation b).Ok := by
  have hsh : ∀ t, t < b.states.length → t + a.states.length < a.states.length + b.states.length :=
    fun t ht => by omega
  have he : a.states.length + b.states.length + 1 < a.states.length + b.states.length + 2 ∧
      a.states.length + b.states.length + 1 ≠ a.states.length + b.states.length :=
    ⟨Nat.lt_succ_self _, Nat.succ_ne_self _⟩
  refine Ok.of_table (n := a.states.length + b.states.length + 2) (alternation_base ha) ?_ ?_
    alternation_start (Nat.lt_add_of_pos_right (by decide)) ?_ ?_
  · rw [alternation_states ha hb]
    refine List.forall_mem_append.mpr ⟨List.forall_mem_append.mpr ⟨forall_mem_modify (fun _ h => h.addE he)
      (ha.table fun _ ht _ => lt_and_ne (Nat.lt_add_right _ ht) 2), forall_mem_modify (fun _ h => h.addE he)
        (hb.shift_table fun _ ht => lt_and_ne (hsh _ ht) 2)⟩, ?_⟩
    exact forall_mem_pair (.of_eps (forall_mem_pair (lt_and_ne (Nat.lt_add_right _ ha.start_lt) 2)
      (lt_and_ne (hsh _ hb.start_lt) 2))) (.of_eps fun _ h => nomatch h)
  · rw [alternation_states ha hb, List.length_append, List.length_append, List.length_modify, List.length_modify,
      shift_len]; rfl
  · rw [alternation_fin]; exact Nat.lt_succ_self _
  · rw [alternation_fin]; exact alternation_state_end ha hb

theorem alternation_accepts (ha : a.Ok) (hb : b.Ok) (cm : Nat → Nat → Bool) (w : List Nat) :
    (a.alternation b).Accepts cm w ↔ a.Accepts cm w ∨ b.Accepts cm w := by
  have hb' := shift_wf b a.states.length hb.wf
  have hend := alternation_state_end ha hb
  have hl := (alternation_left ha hb).1.exit_iff (cm := cm) (w := w) ha.wf (alternation_left ha hb).2 hend
    (not_contains0 ha.base (Nat.le_succ_of_le (Nat.le_add_right _ _))) ha.wf.start_in
  have hr := (alternation_right ha hb).1.exit_iff (cm := cm) (w := w) hb' (alternation_right ha hb).2 hend
    (by rw [Nat.add_comm a.states.length, Nat.add_right_comm]
        exact (shift_contains b _ _).trans (not_contains0 hb.base (Nat.le_succ _))) hb'.start_in
  have hsc := (alternation_ok ha hb).wf.start_in
  unfold Nfa.Accepts
  rw [alternation_start] at hsc ⊢
  rw [alternation_fin, Path.from_eps_iff hsc (alternation_state_start ha hb) (Nat.ne_of_lt (Nat.lt_add_one _))]
  constructor
  · rintro ⟨x, hx1, hx2⟩
    rcases List.mem_cons.mp hx1 with rfl | hx1
    · exact .inl (hl.mp hx2)
    · rw [List.mem_singleton.mp hx1] at hx2
      exact .inr ((shift_accepts b _ cm w).mp (hr.mp hx2))
  · rintro (h | h)
    · exact ⟨a.start, List.mem_cons_self, hl.mpr h⟩
    · exact ⟨b.start + a.states.length, List.mem_cons_of_mem _ List.mem_cons_self,
        hr.mpr ((shift_accepts b _ cm w).mpr h)⟩

end Nfa

end Scnr

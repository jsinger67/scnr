import ScnrVerif.Proofs.SpecFind
import ScnrVerif.Proofs.Regex
import ScnrVerif.Model.SpecPat
/-!
# From the automaton-level rule to the pattern-level rule (C01)

Given language equivalence between a lookahead-free mode automaton and its pattern list (what
C02's verified check establishes per program) and terminals in pattern order, the result of the
model of `find_from` follows `sharedTypeRule` (any token types); with distinct token types that
rule is the pattern-level longest-match verdict `patFindOK`, which determines the result uniquely.
-/
namespace Scnr

theorem mem_patCands (cm) (ps : List (Nat × Re)) (w : List Nat) (k len : Nat) :
    (k, len) ∈ patCands cm ps w ↔
      ∃ u v, u ≠ [] ∧ w = u ++ v ∧ len = bytesLen u ∧ ∃ q, ps[k]? = some q ∧ Matches cm q.2 u := by
  refine Iff.trans ?_ exists_mem_splits
  simp only [patCands, List.mem_flatMap, List.mem_filterMap, Option.ite_none_right_eq_some,
    Option.some.injEq, Prod.mk.injEq, matchesBool_iff, List.mem_zipIdx_iff_getElem?]
  refine exists_congr fun p => and_congr_right fun _ => ⟨?_, ?_⟩
  · rintro ⟨⟨q, _⟩, hq, hm, rfl, rfl⟩
    exact ⟨rfl, q, hq, hm⟩
  · rintro ⟨rfl, q, hq, hm⟩
    exact ⟨(q, k), hq, hm, rfl, rfl⟩

theorem patFindOK_none (cm) (ps : List (Nat × Re)) (w : List Nat) :
    patFindOK cm ps w none = true ↔ patCands cm ps w = [] := by
  simp only [patFindOK, List.isEmpty_iff]

theorem patFindOK_some (cm) (ps : List (Nat × Re)) (w : List Nat) (t len : Nat) :
    patFindOK cm ps w (some (t, len)) = true ↔
      ∃ c ∈ patCands cm ps w, (c.2 = len ∧ ps[c.1]?.map (·.1) = some t) ∧
        ∀ c' ∈ patCands cm ps w, c'.2 < len ∨ (c'.2 = len ∧ c.1 ≤ c'.1) := by
  simp only [patFindOK, List.any_eq_true, Bool.and_eq_true, beq_iff_eq, List.all_eq_true,
    Bool.or_eq_true, decide_eq_true_eq]

theorem sharedTypeRule_none (cm) (ps : List (Nat × Re)) (w : List Nat) :
    sharedTypeRule cm ps w none = true ↔ patCands cm ps w = [] := by
  simp only [sharedTypeRule, List.isEmpty_iff]

theorem sharedTypeRule_some (cm) (ps : List (Nat × Re)) (w : List Nat) (t len : Nat) :
    sharedTypeRule cm ps w (some (t, len)) = true ↔
      ∃ c ∈ patCands cm ps w, (c.2 = len ∧ ps[c.1]?.map (·.1) = some t) ∧
        ∀ c' ∈ patCands cm ps w, c'.2 < len ∨ (c'.2 = len ∧
          firstIdxOfType ps t ≤ firstIdxOfType ps ((ps[c'.1]?.map (·.1)).getD 0)) := by
  simp only [sharedTypeRule, List.any_eq_true, Bool.and_eq_true, beq_iff_eq, List.all_eq_true,
    Bool.or_eq_true, decide_eq_true_eq]

/-- Language equivalence between automaton and patterns, as established per program by C02. `cm`
    interprets the class ids of the automaton, `cmR` the leaf tables of the reference expressions
    (`C01.langEquiv_of_check`); for a mode compiled by the model both are the same function
    (`C01.compiled_langEquiv`). -/
def LangEquiv (A : Dfa) (cm : Nat → Nat → Bool) (cmR : Nat → Nat → Bool) (ps : List (Nat × Re)) : Prop :=
  ∀ u, u ≠ [] → ∀ t, acceptsTid A cm u t ↔ ∃ r, (t, r) ∈ ps ∧ Matches cmR r u

theorem laSpec_nolas (M : ModeDfa) (cm) (h : M.las = []) (t : Nat) (v : List Nat) : M.laSpec cm t v = some 0 := by
  simp [ModeDfa.laSpec, h]

theorem mem_specCands_nolas (M : ModeDfa) (cm) (h : M.las = []) (w : List Nat) (k : Cand) :
    k ∈ specCands M cm 0 w ↔
      ∃ u v, u ≠ [] ∧ w = u ++ v ∧ acceptsTid M.dfa cm u k.tid ∧ k.endPos = bytesLen u ∧ k.extent = bytesLen u := by
  simp only [mem_specCands_iff, laSpec_nolas M cm h, Option.some.injEq, Nat.zero_add, exists_eq_left',
    Nat.add_zero]

theorem idx_of_pattern {ps : List (Nat × Re)} (hn : (ps.map (·.1)).Nodup) {k : Nat} {q : Nat × Re}
    (hq : ps[k]? = some q) : (ps.map (·.1)).idxOf q.1 = k := by
  have hq' : (ps.map (·.1))[k]? = some q.1 := by rw [List.getElem?_map, hq]; rfl
  obtain ⟨hk, he⟩ := List.getElem?_eq_some_iff.mp hq'
  exact he ▸ hn.idxOf_getElem k hk

theorem patFindOK_unique (cmR : Nat → Nat → Bool) (ps : List (Nat × Re)) (w : List Nat)
    (r1 r2 : Option (Nat × Nat)) (h1 : patFindOK cmR ps w r1 = true) (h2 : patFindOK cmR ps w r2 = true) :
    r1 = r2 := by
  have hne : ∀ t l, patFindOK cmR ps w (some (t, l)) = true → patFindOK cmR ps w none = true → False := by
    intro t l hs hn
    obtain ⟨c, hc, _⟩ := (patFindOK_some cmR ps w t l).mp hs
    rw [(patFindOK_none cmR ps w).mp hn] at hc
    cases hc
  rcases r1 with _ | ⟨t1, l1⟩
  · rcases r2 with _ | ⟨t2, l2⟩
    · rfl
    · exact (hne t2 l2 h2 h1).elim
  · rcases r2 with _ | ⟨t2, l2⟩
    · exact (hne t1 l1 h1 h2).elim
    · obtain ⟨c1, hc1, ⟨rfl, g1⟩, b1⟩ := (patFindOK_some cmR ps w t1 l1).mp h1
      obtain ⟨c2, hc2, ⟨rfl, g2⟩, b2⟩ := (patFindOK_some cmR ps w t2 l2).mp h2
      -- each of the two candidates is at least as good as the other
      have hl : c1.2 = c2.2 ∧ c1.1 = c2.1 := by
        have x1 := b1 c2 hc2
        have x2 := b2 c1 hc1
        omega
      rw [hl.2, g2] at g1
      rw [hl.1, Option.some.inj g1]

theorem firstIdx_of_cand (cm : Nat → Nat → Bool) (ps : List (Nat × Re)) (hn : (ps.map (·.1)).Nodup)
    (w : List Nat) (c : Nat × Nat) (hc : c ∈ patCands cm ps w) :
    firstIdxOfType ps ((ps[c.1]?.map (·.1)).getD 0) = c.1 := by
  obtain ⟨k, len⟩ := c
  obtain ⟨u, v, _, _, _, q, hq, _⟩ := (mem_patCands cm ps w k len).mp hc
  simp only [hq, Option.map_some, Option.getD_some]
  exact idx_of_pattern hn hq

/-- With pairwise distinct token types the classification rule for finding F2 is the property's
    rule: it can reclassify nothing when token types are unique. -/
theorem sharedTypeRule_eq_patFindOK (cm : Nat → Nat → Bool) (ps : List (Nat × Re))
    (hn : (ps.map (·.1)).Nodup) (w : List Nat) (r : Option (Nat × Nat)) :
    sharedTypeRule cm ps w r = patFindOK cm ps w r := by
  cases r with
  | none => rfl
  | some tl =>
    obtain ⟨t, len⟩ := tl
    rw [Bool.eq_iff_iff, sharedTypeRule_some, patFindOK_some]
    refine exists_congr fun c => and_congr_right fun hc => and_congr_right fun h =>
      forall₂_congr fun c' hc' => ?_
    -- with distinct types the first index of a candidate's type is the candidate's own index
    have hc1 := firstIdx_of_cand cm ps hn w c hc
    rw [h.2] at hc1
    rw [show firstIdxOfType ps t = c.1 from hc1, firstIdx_of_cand cm ps hn w c' hc']

/-- **What the crate does when token types are shared (finding F2), for all inputs**: the model of
    `find_from` on a lookahead-free mode that is language-equivalent to the pattern list — with *no*
    assumption on the token types — reports the longest match, and among the longest matches the
    token type whose first occurrence in the pattern list comes first. -/
theorem findFrom_sharedTypeRule (M : ModeDfa) (cm cmR : Nat → Nat → Bool) (ps : List (Nat × Re))
    (hlas : M.las = []) (hprio : M.dfa.prio = ps.map (·.1))
    (heq : LangEquiv M.dfa cm cmR ps) (w : List Nat) :
    sharedTypeRule cmR ps w (findFrom M cm 0 w) = true := by
  have toSpec : ∀ c ∈ patCands cmR ps w, ∃ q, ps[c.1]? = some q ∧
      (⟨c.2, c.2, q.1⟩ : Cand) ∈ specCands M cm 0 w := by
    intro c hc
    obtain ⟨u, v, h1, h2, h3, q, hq, hm⟩ := (mem_patCands cmR ps w c.1 c.2).mp hc
    refine ⟨q, hq, (mem_specCands_nolas M cm hlas w _).mpr ⟨u, v, h1, h2, ?_, h3, h3⟩⟩
    exact (heq u h1 q.1).mpr ⟨q.2, List.mem_of_getElem? hq, hm⟩
  cases hr : findFrom M cm 0 w with
  | none =>
    rw [sharedTypeRule_none]
    cases hc : patCands cmR ps w with
    | nil => rfl
    | cons c r =>
      obtain ⟨q, _, hmem⟩ := toSpec c (hc ▸ List.mem_cons_self)
      rw [(findFrom_none_iff M cm 0 w).mp hr] at hmem
      cases hmem
  | some r =>
    obtain ⟨t, e⟩ := r
    obtain ⟨k0, hk0, ht, he, hbest⟩ := findFrom_some M cm 0 w t e hr
    obtain ⟨u, v, h1, h2, hacc, h3, h4⟩ := (mem_specCands_nolas M cm hlas w k0).mp hk0
    obtain ⟨re, hre, hm⟩ := (heq u h1 k0.tid).mp hacc
    obtain ⟨i, hi, hget⟩ := List.getElem_of_mem hre
    have hpat : ps[i]? = some (k0.tid, re) := by rw [List.getElem?_eq_getElem hi, hget]
    rw [sharedTypeRule_some]
    refine ⟨(i, e), ?_, ⟨rfl, by rw [hpat, ← ht]; rfl⟩, fun c' hc' => ?_⟩
    · exact (mem_patCands cmR ps w _ _).mpr ⟨u, v, h1, h2, he ▸ h3, (k0.tid, re), hpat, hm⟩
    · obtain ⟨q', hq', hmem'⟩ := toSpec c' hc'
      have := hbest _ hmem'
      rw [Dfa.prioOf, Dfa.prioOf, hprio, ht, h4, ← h3, he] at this
      rw [hq']
      exact this

/-- **C01, one scan step**: the model of `find_from` on a lookahead-free mode whose automaton is
    language-equivalent to the pattern list reports the longest non-empty prefix some pattern
    matches, with the token type of the first listed pattern matching it. -/
theorem findFrom_patFindOK (M : ModeDfa) (cm cmR : Nat → Nat → Bool) (ps : List (Nat × Re))
    (hlas : M.las = []) (hprio : M.dfa.prio = ps.map (·.1)) (hn : (ps.map (·.1)).Nodup)
    (heq : LangEquiv M.dfa cm cmR ps) (w : List Nat) :
    patFindOK cmR ps w (findFrom M cm 0 w) = true :=
  sharedTypeRule_eq_patFindOK cmR ps hn w _ ▸ findFrom_sharedTypeRule M cm cmR ps hlas hprio heq w

end Scnr

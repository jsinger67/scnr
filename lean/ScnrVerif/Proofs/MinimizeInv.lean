import ScnrVerif.Proofs.Minimize
/-!
# Invariants of the refinement loop (track A)

`refine` keeps the groups non-empty, pairwise disjoint, homogeneous and covering all states
(`PartInv`); a fixpoint of `refine` is stable. Hence the partition the loop stops at is a
`GoodPartition`.
-/
namespace Scnr

theorem mem_signature (A : Dfa) (P : List (List Nat)) (s cc k : Nat) :
    (cc, k) ∈ signature A P s ↔ ∃ t, (cc, t) ∈ A.outs s ∧ findGroup P t = k := by
  simp only [signature, mem_flatMap_inMap, inMap_transMap]

abbrev SigMap := List (List (Nat × Nat) × List Nat)

theorem insertNew_perm (sig : List (Nat × Nat)) (s : Nat) (m : SigMap) :
    (insertNew sig s m).Perm ((sig, [s]) :: m) := by
  induction m with
  | nil => exact .refl _
  | cons p r ih =>
    simp only [insertNew]
    split
    · exact .refl _
    · exact (ih.cons p).trans (.swap ..)

theorem mem_insertNew (sig : List (Nat × Nat)) (s : Nat) (m : SigMap) (e : List (Nat × Nat) × List Nat) :
    e ∈ insertNew sig s m ↔ e = (sig, [s]) ∨ e ∈ m := by
  rw [(insertNew_perm sig s m).mem_iff, List.mem_cons]

theorem inMap_insertNew (sig : List (Nat × Nat)) (s : Nat) (m : SigMap) (k : List (Nat × Nat)) (x : Nat) :
    InMap (insertNew sig s m) k x ↔ InMap m k x ∨ (k = sig ∧ x = s) := by
  have : InMap (insertNew sig s m) k x ↔ InMap ((sig, [s]) :: m) k x :=
    exists_congr fun _ => and_congr_left' (insertNew_perm sig s m).mem_iff
  rw [this, inMap_cons, List.mem_singleton, or_comm]

theorem inMap_map_addTo (sig : List (Nat × Nat)) (s : Nat) (m : SigMap) (k : List (Nat × Nat)) (x : Nat) :
    InMap (m.map fun e => if e.1 == sig then (e.1, normNat (e.2 ++ [s])) else e) k x ↔
      InMap m k x ∨ (k = sig ∧ x = s ∧ ∃ e ∈ m, e.1 = sig) := by
  induction m with
  | nil => simp [inMap_nil]
  | cons p r ih =>
    rw [List.map_cons, inMap_cons, inMap_cons, ih, exists_mem_cons_iff]
    split
    · rename_i h
      have h := beq_iff_eq.mp h
      simp only [mem_normNat, List.mem_append, List.mem_singleton, h, true_or, and_true]
      rw [and_or_left, or_assoc, or_assoc, or_left_comm (a := k = sig ∧ x = s), or_iff_left_of_imp (b := _ ∧ _ ∧ _)]
      exact fun h => ⟨h.1, h.2.1⟩
    · rename_i h
      have h : ¬ p.1 = sig := fun e => h (beq_iff_eq.mpr e)
      simp only [h, false_or, or_assoc]

theorem inMap_insertSig (sig : List (Nat × Nat)) (s : Nat) (m : SigMap) (k : List (Nat × Nat)) (x : Nat) :
    InMap (insertSig sig s m) k x ↔ InMap m k x ∨ (k = sig ∧ x = s) := by
  unfold insertSig
  split
  · rename_i hany
    simp only [List.any_eq_true, beq_iff_eq] at hany
    simp only [inMap_map_addTo, hany, and_true]
  · exact inMap_insertNew sig s m k x

theorem insertSig_values {Q : List Nat → Prop} (sig : List (Nat × Nat)) (s : Nat) (m : SigMap)
    (h : ∀ e ∈ m, Q e.2) (hadd : ∀ e ∈ m, Q (normNat (e.2 ++ [s]))) (hnew : Q [s]) :
    ∀ e ∈ insertSig sig s m, Q e.2 := by
  intro e he
  unfold insertSig at he
  split at he
  · obtain ⟨e0, he0, rfl⟩ := List.mem_map.mp he
    split
    · exact hadd e0 he0
    · exact h e0 he0
  · rcases (mem_insertNew sig s m e).mp he with rfl | he
    · exact hnew
    · exact h e he

/-- Invariant of the map while the states `done` of a group have been inserted: the entry with key
    `k` holds exactly the inserted states of signature `k`. -/
structure MapInv (A : Dfa) (P : List (List Nat)) (done : List Nat) (m : SigMap) : Prop where
  mem : ∀ k x, InMap m k x ↔ x ∈ done ∧ k = signature A P x
  keys : (m.map (·.1)).Nodup
  nonempty : ∀ e ∈ m, e.2 ≠ []

theorem mapInv_insert (A : Dfa) (P : List (List Nat)) (done : List Nat) (m : SigMap) (s : Nat)
    (h : MapInv A P done m) : MapInv A P (done ++ [s]) (insertSig (signature A P s) s m) where
  mem k x := by
    rw [inMap_insertSig, h.mem, List.mem_append, List.mem_singleton, or_and_right]
    exact or_congr Iff.rfl ⟨fun ⟨hk, hx⟩ => ⟨hx, hx ▸ hk⟩, fun ⟨hx, hk⟩ => ⟨hx ▸ hk, hx⟩⟩
  keys := by
    unfold insertSig
    split
    · rw [List.map_map, List.map_congr_left (g := (·.1))]
      · exact h.keys
      · intro e _
        simp only [Function.comp]
        split <;> rfl
    · rename_i hany
      rw [((insertNew_perm _ s m).map _).nodup_iff, List.map_cons, List.nodup_cons]
      refine ⟨fun hm => hany ?_, h.keys⟩
      obtain ⟨e, he, hk⟩ := List.mem_map.mp hm
      exact List.any_eq_true.mpr ⟨e, he, beq_iff_eq.mpr hk⟩
  nonempty := insertSig_values (Q := (· ≠ [])) _ s m h.nonempty
    (fun _ _ => List.ne_nil_of_mem ((mem_normNat s _).mpr (List.mem_append_right _ List.mem_cons_self)))
    (List.cons_ne_nil s [])

/-- the map `split_group` builds for a group -/
def splitMap (A : Dfa) (P : List (List Nat)) (g : List Nat) : SigMap :=
  g.foldl (fun m s => insertSig (signature A P s) s m) []

theorem mapInv_foldl (A : Dfa) (P : List (List Nat)) (g : List Nat) (done : List Nat) (m : SigMap)
    (h : MapInv A P done m) :
    MapInv A P (done ++ g) (g.foldl (fun m s => insertSig (signature A P s) s m) m) := by
  induction g generalizing done m with
  | nil => simpa using h
  | cons s r ih =>
    simp only [List.foldl_cons]
    have := ih (done ++ [s]) _ (mapInv_insert A P done m s h)
    simpa using this

theorem mapInv_splitMap (A : Dfa) (P : List (List Nat)) (g : List Nat) : MapInv A P g (splitMap A P g) := by
  have := mapInv_foldl A P g [] [] ⟨by simp [inMap_nil], by simp, by simp⟩
  rwa [List.nil_append] at this

/-- The shortcut for one-element groups returns what the general case computes. -/
theorem splitGroup_eq (A : Dfa) (P : List (List Nat)) (g : List Nat) :
    splitGroup A P g = (splitMap A P g).map (·.2) := by
  unfold splitGroup
  split
  · rename_i h
    obtain ⟨x, rfl⟩ := List.length_eq_one_iff.mp h
    rfl
  · rfl

/-- The parts `split_group` produces for a group. -/
structure SplitSpec (A : Dfa) (P : List (List Nat)) (g : List Nat) (parts : List (List Nat)) : Prop where
  nonempty : ∀ p ∈ parts, p ≠ []
  sub : ∀ p ∈ parts, ∀ s ∈ p, s ∈ g
  all : ∀ s ∈ g, ∃ p ∈ parts, s ∈ p
  sameSig : ∀ p ∈ parts, ∀ s ∈ p, ∀ s' ∈ p, signature A P s = signature A P s'
  disjoint : ∀ p ∈ parts, ∀ p' ∈ parts, ∀ s, s ∈ p → s ∈ p' → p = p'

theorem splitGroup_spec (A : Dfa) (P : List (List Nat)) (g : List Nat) : SplitSpec A P g (splitGroup A P g) := by
  rw [splitGroup_eq]
  have hm := mapInv_splitMap A P g
  have key : ∀ e ∈ splitMap A P g, ∀ s ∈ e.2, s ∈ g ∧ e.1 = signature A P s :=
    fun e he s hs => (hm.mem e.1 s).mp ⟨e, he, rfl, hs⟩
  exact {
    nonempty := List.forall_mem_map.mpr hm.nonempty
    sub := List.forall_mem_map.mpr fun e he s hs => (key e he s hs).1
    all := fun s hs =>
      have ⟨e, he, _, hse⟩ := (hm.mem _ s).mpr ⟨hs, rfl⟩
      ⟨e.2, List.mem_map.mpr ⟨e, he, rfl⟩, hse⟩
    sameSig := List.forall_mem_map.mpr fun e he s hs s' hs' =>
      (key e he s hs).2.symm.trans (key e he s' hs').2
    disjoint := List.forall_mem_map.mpr fun e he => List.forall_mem_map.mpr fun e' he' s hs hs' =>
      congrArg (·.2) (inj_on_of_nodup_map hm.keys e he e' he' ((key e he s hs).2.trans (key e' he' s hs').2.symm)) }

/-- Entries with the same value list share a state, hence the key. -/
theorem splitGroup_nodup (A : Dfa) (P : List (List Nat)) (g : List Nat) : (splitGroup A P g).Nodup := by
  rw [splitGroup_eq]
  have hm := mapInv_splitMap A P g
  refine nodup_map_of_inj_on _ _ (List.Pairwise.of_map _ (fun _ _ hne heq => hne (heq ▸ rfl)) hm.keys) ?_
  intro e he e' he' heq
  obtain ⟨s, hs⟩ := List.exists_mem_of_ne_nil _ (hm.nonempty e he)
  exact inj_on_of_nodup_map hm.keys e he e' he'
    (((hm.mem e.1 s).mp ⟨e, he, rfl, hs⟩).2.trans ((hm.mem e'.1 s).mp ⟨e', he', rfl, heq ▸ hs⟩).2.symm)

/-- Invariant of the partitions computed by the minimizer. `GoodPartition` is this without
    `nonempty`, plus `targets` and `stable`. -/
structure PartInv (A : Dfa) (P : List (List Nat)) : Prop where
  nonempty : ∀ g ∈ P, g ≠ []
  covers : ∀ s, s < A.trans.length → ∃ g ∈ P, s ∈ g
  disjoint : ∀ g ∈ P, ∀ g' ∈ P, ∀ s, s ∈ g → s ∈ g' → g = g'
  homog : ∀ g ∈ P, ∀ s ∈ g, ∀ s' ∈ g, A.isEnd s = A.isEnd s' ∧ (A.isEnd s = true → A.tidOf s = A.tidOf s')

theorem refine_inv (A : Dfa) (P : List (List Nat)) (h : PartInv A P) : PartInv A (refine A P) := by
  unfold refine
  refine ⟨?_, ?_, ?_, ?_⟩
  · intro p hp
    obtain ⟨g, hg, hpg⟩ := List.mem_flatMap.mp hp
    exact (splitGroup_spec A P g).nonempty p hpg
  · intro s hs
    obtain ⟨g, hg, hsg⟩ := h.covers s hs
    obtain ⟨p, hp, hsp⟩ := (splitGroup_spec A P g).all s hsg
    exact ⟨p, List.mem_flatMap.mpr ⟨g, hg, hp⟩, hsp⟩
  · intro p hp p' hp' s hs hs'
    obtain ⟨g, hg, hpg⟩ := List.mem_flatMap.mp hp
    obtain ⟨g', hg', hpg'⟩ := List.mem_flatMap.mp hp'
    have sg := splitGroup_spec A P g
    have sg' := splitGroup_spec A P g'
    have : g = g' := h.disjoint g hg g' hg' s (sg.sub p hpg s hs) (sg'.sub p' hpg' s hs')
    subst this
    exact sg.disjoint p hpg p' hpg' s hs hs'
  · intro p hp s hs s' hs'
    obtain ⟨g, hg, hpg⟩ := List.mem_flatMap.mp hp
    have sg := splitGroup_spec A P g
    exact h.homog g hg s (sg.sub p hpg s hs) s' (sg.sub p hpg s' hs')

/-- Every group of `refine A P = P` is a part of some split, so its members have equal signatures. -/
theorem fixpoint_good (A : Dfa) (P : List (List Nat)) (hinv : PartInv A P)
    (htar : ∀ s cc t, (cc, t) ∈ A.outs s → t < A.trans.length) (hfix : refine A P = P) :
    GoodPartition A P := by
  refine ⟨hinv.covers, htar, hinv.disjoint, hinv.homog, ?_⟩
  intro g hg s hs s' hs' cc t ht
  rw [← hfix] at hg
  obtain ⟨g', hg', hgg'⟩ := List.mem_flatMap.mp hg
  have hsig := (splitGroup_spec A P g').sameSig g hgg' s hs s' hs'
  have hm : (cc, findGroup P t) ∈ signature A P s := (mem_signature A P s cc _).mpr ⟨t, ht, rfl⟩
  rw [hsig] at hm
  obtain ⟨t', ht', hk⟩ := (mem_signature A P s' cc _).mp hm
  obtain ⟨h1, hh1, hth1⟩ := findGroup_mem P t (hinv.covers t (htar s cc t ht))
  obtain ⟨h2, hh2, hth2⟩ := findGroup_mem P t' (hinv.covers t' (htar s' cc t' ht'))
  rw [hk, hh1] at hh2
  cases hh2
  exact ⟨t', ht', h1, List.mem_of_getElem? hh1, hth1, hth2⟩

end Scnr

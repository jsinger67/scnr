import ScnrVerif.Model.Registry
import ScnrVerif.Proofs.FullMode
/-!
# The class registry assigns ids faithfully (for every scanner)

`assign_spec`: translating an AST whose leaves are keys into one whose leaves are registry positions
keeps the registry duplicate-free and only appends to it; every id it hands out is registered; and
under the class function of any later registry (`regCm R' sem`, `R'` an extension) the translated AST
denotes the language of the key-level AST under `sem`.
-/
namespace Scnr

theorem regAdd_prefix (R : List Nat) (k : Nat) : R <+: (regAdd R k).1 := by
  unfold regAdd; split
  · exact List.prefix_refl R
  · exact List.prefix_append R [k]

theorem regAdd_nodup (R : List Nat) (k : Nat) (h : R.Nodup) : (regAdd R k).1.Nodup := by
  unfold regAdd; split
  · exact h
  · rename_i hk
    exact nodup_concat h hk

theorem regAdd_get (R : List Nat) (k : Nat) : (regAdd R k).1[(regAdd R k).2]? = some k := by
  unfold regAdd; split
  · rename_i hk
    have hlt : R.idxOf k < R.length := List.idxOf_lt_length_of_mem hk
    exact List.getElem?_eq_some_iff.mpr ⟨hlt, List.getElem_idxOf hlt⟩
  · exact List.getElem?_concat_length

theorem regCm_prefix {R R' : List Nat} (h : R <+: R') (sem : Nat → Nat → Bool) {id : Nat} (hid : id < R.length) :
    regCm R' sem id = regCm R sem id := by
  obtain ⟨t, rfl⟩ := h
  funext c
  simp only [regCm, List.getElem?_append_left hid]

theorem sameLang_regLeaf {R R' : List Nat} {id k : Nat} (h : R[id]? = some k) (hR' : R <+: R')
    (sem : Nat → Nat → Bool) : SameLang (regCm R' sem) sem (.cls id) (.cls k) :=
  sameLang_cls fun ch => by
    rw [regCm_prefix hR' sem (List.getElem?_eq_some_iff.mp h).1]
    simp only [regCm, h]

mutual
theorem idsBelow_mono {n m : Nat} (hnm : n ≤ m) : (a : CAst) → a.idsBelow n = true → a.idsBelow m = true
  | .empty, _ => rfl
  | .leaf _, h => decide_eq_true (Nat.lt_of_lt_of_le (of_decide_eq_true h) hnm)
  | .concat xs, h | .alt xs, h => idsBelowList_mono hnm xs h
  | .opt x, h | .star x, h | .plus x, h | .exactly _ x, h | .atLeast _ x, h | .bounded _ _ x, h =>
    idsBelow_mono hnm x h
theorem idsBelowList_mono {n m : Nat} (hnm : n ≤ m) : (xs : List CAst) → CAst.idsBelowList n xs = true →
    CAst.idsBelowList m xs = true
  | [], _ => rfl
  | x :: xs, h => by
    rw [CAst.idsBelowList, Bool.and_eq_true] at h ⊢
    exact ⟨idsBelow_mono hnm x h.1, idsBelowList_mono hnm xs h.2⟩
end

theorem and₄_imp_last {a b c d e : Prop} (h : a ∧ b ∧ c ∧ d) (f : d → e) : a ∧ b ∧ c ∧ e :=
  ⟨h.1, h.2.1, h.2.2.1, f h.2.2.2⟩

mutual
theorem assign_spec (a : CAst) (R : List Nat) (hR : R.Nodup) :
    R <+: (assign a R).2 ∧ (assign a R).2.Nodup ∧
    (assign a R).1.idsBelow (assign a R).2.length = true ∧
    ∀ R', (assign a R).2 <+: R' → ∀ sem : Nat → Nat → Bool,
      SameLang (regCm R' sem) sem (assign a R).1.toRe a.toRe :=
  -- only a leaf touches the registry: the other constructors pass the first three parts on as they are
  match a with
  | .empty | .alt [] => ⟨List.prefix_refl R, hR, rfl, fun _ _ _ => sameLang_eps _ _⟩
  | .leaf k => ⟨regAdd_prefix R k, regAdd_nodup R k hR,
      decide_eq_true (List.getElem?_eq_some_iff.mp (regAdd_get R k)).1,
      fun _ hR' sem => sameLang_regLeaf (regAdd_get R k) hR' sem⟩
  | .concat xs =>
    and₄_imp_last (assignList_spec_aux xs R hR) fun h R' hR' sem => sameLang_catList (h R' hR' sem)
  | .alt (x :: xs) =>
    and₄_imp_last (assignList_spec_aux (x :: xs) R hR) fun h R' hR' sem => sameLang_altList (h R' hR' sem)
  | .opt x => and₄_imp_last (assign_spec x R hR) fun h R' hR' sem => sameLang_opt (h R' hR' sem)
  | .star x => and₄_imp_last (assign_spec x R hR) fun h R' hR' sem => sameLang_star (h R' hR' sem)
  | .plus x => and₄_imp_last (assign_spec x R hR) fun h R' hR' sem =>
      sameLang_cat (h R' hR' sem) (sameLang_star (h R' hR' sem))
  | .exactly n x => and₄_imp_last (assign_spec x R hR) fun h R' hR' sem => sameLang_pow (h R' hR' sem) n
  | .atLeast n x => and₄_imp_last (assign_spec x R hR) fun h R' hR' sem =>
      sameLang_cat (sameLang_pow (h R' hR' sem) n) (sameLang_star (h R' hR' sem))
  | .bounded m n x => and₄_imp_last (assign_spec x R hR) fun h R' hR' sem =>
      sameLang_cat (sameLang_pow (h R' hR' sem) m) (sameLang_pow (sameLang_opt (h R' hR' sem)) (n - m))
theorem assignList_spec_aux : (xs : List CAst) → (R : List Nat) → R.Nodup →
    R <+: (assignList xs R).2 ∧ (assignList xs R).2.Nodup ∧
    CAst.idsBelowList (assignList xs R).2.length (assignList xs R).1 = true ∧
    ∀ R', (assignList xs R).2 <+: R' → ∀ sem : Nat → Nat → Bool,
      AllSame (regCm R' sem) sem (CAst.toReList (assignList xs R).1) (CAst.toReList xs)
  | [], R, hR => ⟨List.prefix_refl R, hR, rfl, fun _ _ _ => .nil⟩
  | x :: xs, R, hR =>
    have ⟨h1, h2, h3, h4⟩ := assign_spec x R hR
    have ⟨g1, g2, g3, g4⟩ := assignList_spec_aux xs (assign x R).2 h2
    ⟨h1.trans g1, g2, Bool.and_eq_true_iff.mpr ⟨idsBelow_mono g1.length_le _ h3, g3⟩,
      fun R' hR' sem => .cons (h4 R' (g1.trans hR') sem) (g4 R' hR' sem)⟩
end

theorem laHolds_congr {cm sem : Nat → Nat → Bool} {a' a : CAst} (h : SameLang cm sem a'.toRe a.toRe)
    (pos : Bool) (v : List Nat) (l : Nat) :
    LaHolds cm (some (pos, a')) v l ↔ LaHolds sem (some (pos, a)) v l := by
  have h' : ∀ w, Matches cm a'.toRe w ↔ Matches sem a.toRe w := h
  cases pos <;> simp only [LaHolds, h']

/-- a translated pattern against the key-level pattern: same token type, same language, same
    lookahead condition -/
def PatAgrees (cm sem : Nat → Nat → Bool) (p' p : CPat) : Prop :=
  p'.tid = p.tid ∧ SameLang cm sem p'.ast.toRe p.ast.toRe ∧ ∀ v l, LaHolds cm p'.la v l ↔ LaHolds sem p.la v l

theorem assignPatAsts_spec : (ps : List CPat) → (R : List Nat) → R.Nodup →
    R <+: (assignPatAsts ps R).2 ∧ (assignPatAsts ps R).2.Nodup ∧
    ∀ R', (assignPatAsts ps R).2 <+: R' → ∀ sem : Nat → Nat → Bool,
      Forall₂ (fun p' p => p'.tid = p.tid ∧ p'.la = p.la ∧ SameLang (regCm R' sem) sem p'.ast.toRe p.ast.toRe)
        (assignPatAsts ps R).1 ps
  | [], R, hR => ⟨List.prefix_refl R, hR, fun _ _ _ => .nil⟩
  | q :: qs, R, hR =>
    have ⟨h1, h2, _, h4⟩ := assign_spec q.ast R hR
    have ⟨g1, g2, g4⟩ := assignPatAsts_spec qs (assign q.ast R).2 h2
    ⟨h1.trans g1, g2, fun R' hR' sem => .cons ⟨rfl, rfl, h4 R' (g1.trans hR') sem⟩ (g4 R' hR' sem)⟩

theorem assignLaAsts_spec : (ps : List CPat) → (R : List Nat) → R.Nodup →
    R <+: (assignLaAsts ps R).2 ∧ (assignLaAsts ps R).2.Nodup ∧
    ∀ R', (assignLaAsts ps R).2 <+: R' → ∀ sem : Nat → Nat → Bool,
      Forall₂ (fun p' p => p'.tid = p.tid ∧ p'.ast = p.ast ∧
          ∀ v l, LaHolds (regCm R' sem) p'.la v l ↔ LaHolds sem p.la v l) (assignLaAsts ps R).1 ps
  | [], R, hR => ⟨List.prefix_refl R, hR, fun _ _ _ => .nil⟩
  | ⟨_, _, none⟩ :: qs, R, hR =>
    have ⟨g1, g2, g4⟩ := assignLaAsts_spec qs R hR
    ⟨g1, g2, fun R' hR' sem => .cons ⟨rfl, rfl, fun _ _ => Iff.rfl⟩ (g4 R' hR' sem)⟩
  | ⟨_, _, some (pos, a)⟩ :: qs, R, hR =>
    have ⟨h1, h2, _, h4⟩ := assign_spec a R hR
    have ⟨g1, g2, g4⟩ := assignLaAsts_spec qs (assign a R).2 h2
    ⟨h1.trans g1, g2, fun R' hR' sem =>
      .cons ⟨rfl, rfl, laHolds_congr (h4 R' (g1.trans hR') sem) pos⟩ (g4 R' hR' sem)⟩

theorem assignMode_spec (ps : List CPat) (R : List Nat) (hR : R.Nodup) :
    R <+: (assignMode ps R).2 ∧ (assignMode ps R).2.Nodup ∧
    ∀ R', (assignMode ps R).2 <+: R' → ∀ sem : Nat → Nat → Bool,
      Forall₂ (PatAgrees (regCm R' sem) sem) (assignMode ps R).1 ps :=
  have ⟨h1, h2, h4⟩ := assignPatAsts_spec ps R hR
  have ⟨g1, g2, g4⟩ := assignLaAsts_spec (assignPatAsts ps R).1 (assignPatAsts ps R).2 h2
  ⟨h1.trans g1, g2, fun R' hR' sem => (g4 R' hR' sem).comp (h4 R' (g1.trans hR') sem)
    fun _ _ _ a b => ⟨a.1.trans b.1, a.2.1 ▸ b.2.2, b.2.1 ▸ a.2.2⟩⟩

theorem assignModes_spec : (ms : List (List CPat)) → (R : List Nat) → R.Nodup →
    R <+: (assignModes ms R).2 ∧ (assignModes ms R).2.Nodup ∧
    ∀ R', (assignModes ms R).2 <+: R' → ∀ sem : Nat → Nat → Bool,
      Forall₂ (Forall₂ (PatAgrees (regCm R' sem) sem)) (assignModes ms R).1 ms
  | [], R, hR => ⟨List.prefix_refl R, hR, fun _ _ _ => .nil⟩
  | m :: ms, R, hR =>
    have ⟨h1, h2, h4⟩ := assignMode_spec m R hR
    have ⟨g1, g2, g4⟩ := assignModes_spec ms (assignMode m R).2 h2
    ⟨h1.trans g1, g2, fun R' hR' sem => .cons (h4 R' (g1.trans hR') sem) (g4 R' hR' sem)⟩

theorem pcand_of_patAgrees {cm sem : Nat → Nat → Bool} {ps' ps : List CPat} (h : Forall₂ (PatAgrees cm sem) ps' ps)
    (i : Nat) (w : List Nat) (k : Cand) : PCand cm ps' i w k ↔ PCand sem ps i w k := by
  constructor
  · rintro ⟨u, v, q', hu, hw, hq', ht, hm, he, l, hl, hx⟩
    obtain ⟨q, hq, a1, a2, a3⟩ := h.mem_left hq'
    exact ⟨u, v, q, hu, hw, hq, a1 ▸ ht, (a2 u).mp hm, he, l, (a3 v l).mp hl, hx⟩
  · rintro ⟨u, v, q, hu, hw, hq, ht, hm, he, l, hl, hx⟩
    obtain ⟨q', hq', a1, a2, a3⟩ := h.mem_right hq
    exact ⟨u, v, q', hu, hw, hq', a1.symm ▸ ht, (a2 u).mpr hm, he, l, (a3 v l).mpr hl, hx⟩

/-- **a whole scanner through the registry**: compile the modes of any scanner whose AST leaves are
    keys; under the class function of the final registry every compiled mode accepts exactly the
    languages of its key-level patterns under `sem` -/
theorem registry_mode_correct (ms : List (List CPat)) (sem : Nat → Nat → Bool) (i : Nat) (ps : List CPat)
    (h : ms[i]? = some ps) :
    ∃ ps', (assignModes ms []).1[i]? = some ps' ∧ (ps'.map (·.tid)) = (ps.map (·.tid)) ∧
      (∀ w t, acceptsTid (compileFull ps').dfa (regCm (assignModes ms []).2 sem) w t ↔
        w ≠ [] ∧ ∃ q ∈ ps, q.tid = t ∧ Matches sem q.ast.toRe w) ∧
      (∀ i0 w k, PCand (regCm (assignModes ms []).2 sem) ps' i0 w k ↔ PCand sem ps i0 w k) := by
  obtain ⟨ps', hp', hag⟩ := ((assignModes_spec ms [] List.nodup_nil).2.2 _ (List.prefix_refl _) sem).getElem? h
  refine ⟨ps', hp', hag.map_eq fun _ _ h => h.1, ?_, pcand_of_patAgrees hag⟩
  intro w t
  rw [compileFull_dfa, compileMode_correct]
  apply and_congr_right
  intro _
  constructor
  · rintro ⟨x, hx, hxt, hm⟩
    obtain ⟨q', hq', rfl⟩ := List.mem_map.mp hx
    obtain ⟨q, hq, hpa⟩ := hag.mem_left hq'
    exact ⟨q, hq, hpa.1 ▸ hxt, (hpa.2.1 w).mp hm⟩
  · rintro ⟨q, hq, hqt, hm⟩
    obtain ⟨q', hq', hpa⟩ := hag.mem_right hq
    exact ⟨(q'.tid, q'.ast), List.mem_map.mpr ⟨q', hq', rfl⟩, hpa.1.symm ▸ hqt, (hpa.2.1 w).mpr hm⟩

end Scnr

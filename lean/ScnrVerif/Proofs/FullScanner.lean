import ScnrVerif.Proofs.FullMode
import ScnrVerif.Proofs.ModelFinder
/-!
# The whole scanner, end to end (compiler + finder + iterator + modes)

`compileScanner ms` compiles every mode of a configuration (`compileFull`: mode automaton plus
lookahead automata, minimized), `scannerCfg ms` keeps names and transitions.
-/
namespace Scnr

structure CMode where
  name : List Nat
  pats : List CPat
  trans : List (Nat × Nat)
deriving Repr, Inhabited

def compileScanner (ms : List CMode) : List ModeDfa := ms.map fun m => compileFull m.pats

def scannerCfg (ms : List CMode) : List ModeCfg := ms.map fun m => ⟨m.name, m.trans⟩

theorem scanner_finder_spec (ms : List CMode) (hn : ∀ md ∈ ms, (md.pats.map (·.tid)).Nodup)
    (cm : Nat → Nat → Bool) (m : Nat) (w : List Nat) :
    match ms[m]? with
    | none => modelFinder (compileScanner ms) cm m w = none
    | some md => PFindOK cm md.pats w (modelFinder (compileScanner ms) cm m w) := by
  rw [modelFinder_eq, compileScanner, List.getElem?_map]
  cases hm : ms[m]? with
  | none => rfl
  | some md => exact findFrom_compileFull md.pats (hn md (List.mem_of_getElem? hm)) cm w

end Scnr

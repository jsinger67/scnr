import ScnrVerif.Proofs.FindFrom
import ScnrVerif.Proofs.Basics
import ScnrVerif.Model.SpecFind
/-!
# `find_from` meets the trailing-context specification

`findFrom_specFindOK`: for every automaton with lookaheads, class function and text, the result of
the model of `find_from` passes the declarative verdict `specFindOK`.
-/
namespace Scnr

theorem not_exists_prefix_nil {P : List Nat → List Nat → Prop} :
    ¬ ∃ u v, u ≠ [] ∧ [] = u ++ v ∧ P u v := by
  rintro ⟨u, v, hu, hw, _⟩
  exact hu (List.append_eq_nil_iff.mp hw.symm).1

theorem exists_prefix_cons {c : Nat} {w : List Nat} {P : List Nat → List Nat → Prop} :
    (∃ u v, u ≠ [] ∧ c :: w = u ++ v ∧ P u v) ↔
      P [c] w ∨ ∃ u v, u ≠ [] ∧ w = u ++ v ∧ P (c :: u) v := by
  constructor
  · rintro ⟨u, v, hu, hw, h⟩
    cases u with
    | nil => exact absurd rfl hu
    | cons d u =>
      obtain ⟨rfl, rfl⟩ := List.cons.inj hw
      cases u with
      | nil => exact Or.inl h
      | cons e u => exact Or.inr ⟨e :: u, v, List.cons_ne_nil e u, rfl, h⟩
  · rintro (h | ⟨u, v, _, rfl, h⟩)
    · exact ⟨[c], w, List.cons_ne_nil c [], rfl, h⟩
    · exact ⟨c :: u, v, List.cons_ne_nil c u, rfl, h⟩

theorem exists_mem_splits {w : List Nat} {P : List Nat → List Nat → Prop} :
    (∃ p ∈ splits w, P p.1 p.2) ↔ ∃ u v, u ≠ [] ∧ w = u ++ v ∧ P u v := by
  induction w generalizing P with
  | nil =>
    refine iff_of_false ?_ not_exists_prefix_nil
    rintro ⟨_, hp, _⟩
    cases hp
  | cons c w ih =>
    rw [exists_prefix_cons, ← ih]
    simp only [splits, List.mem_cons, exists_eq_or_imp]
    refine or_congr Iff.rfl ⟨?_, ?_⟩
    · rintro ⟨_, hp, h⟩
      obtain ⟨q, hq, rfl⟩ := List.mem_map.mp hp
      exact ⟨q, hq, h⟩
    · rintro ⟨q, hq, h⟩
      exact ⟨_, List.mem_map_of_mem hq, h⟩

theorem mem_splits {w : List Nat} {p : List Nat × List Nat} :
    p ∈ splits w ↔ p.1 ≠ [] ∧ w = p.1 ++ p.2 := by
  have h := exists_mem_splits (w := w) (P := fun u v => (u, v) = p)
  simp only [exists_eq_right] at h
  rw [h]
  constructor
  · rintro ⟨u, v, hu, hw, rfl⟩
    exact ⟨hu, hw⟩
  · rintro ⟨hu, hw⟩
    exact ⟨p.1, p.2, hu, hw, rfl⟩

theorem candAt_iff (A : Dfa) (cm) (la : Nat → List Nat → Option Nat) (i : Nat) (w S : List Nat)
    (k : Cand) :
    CandAt A cm la i w S k ↔
      ∃ u v, u ≠ [] ∧ w = u ++ v ∧ ∃ s ∈ reach A cm S u, A.isEnd s = true ∧
        ∃ l, la (A.tidOf s) v = some l ∧ k = ⟨i + bytesLen u, i + bytesLen u + l, A.tidOf s⟩ := by
  induction w generalizing i S with
  | nil => exact iff_of_false id not_exists_prefix_nil
  | cons c w ih =>
    unfold CandAt
    rw [ih, exists_prefix_cons]
    simp only [reach, mem_stepStates, bytesLen, Nat.add_zero, Nat.add_assoc]

theorem mem_accLens {A : Dfa} {cm v x} :
    x ∈ accLens A cm v ↔
      ∃ u r, u ≠ [] ∧ v = u ++ r ∧ (∃ s ∈ reach A cm [0] u, A.isEnd s = true) ∧ x = bytesLen u := by
  refine Iff.trans ?_ exists_mem_splits
  simp only [accLens, List.mem_filterMap, Option.ite_none_right_eq_some, Option.some.injEq,
    List.any_eq_true, eq_comm (a := x)]

theorem mem_specCands (M : ModeDfa) (cm) (i : Nat) (w : List Nat) (k : Cand) :
    k ∈ specCands M cm i w ↔
      ∃ u v, u ≠ [] ∧ w = u ++ v ∧ ∃ s ∈ reach M.dfa cm [0] u, M.dfa.isEnd s = true ∧
        ∃ l, M.laSpec cm (M.dfa.tidOf s) v = some l ∧
          k = ⟨i + bytesLen u, i + bytesLen u + l, M.dfa.tidOf s⟩ := by
  refine Iff.trans ?_ exists_mem_splits
  unfold specCands
  simp only [List.mem_flatMap, List.mem_filterMap, Option.ite_none_right_eq_some]
  refine exists_congr fun p => and_congr_right fun _ => exists_congr fun s => and_congr_right fun _ =>
    and_congr_right fun _ => ?_
  cases M.laSpec cm (M.dfa.tidOf s) p.2 with
  | none => exact iff_of_false nofun nofun
  | some l => simp only [Option.some.injEq, exists_eq_left', eq_comm]

theorem candAt_iff_mem_specCands (M : ModeDfa) (cm) (i : Nat) (w : List Nat) (k : Cand) :
    CandAt M.dfa cm (M.laSpec cm) i w [0] k ↔ k ∈ specCands M cm i w := by
  rw [candAt_iff, mem_specCands]

theorem mem_specCands_iff (M : ModeDfa) (cm) (i : Nat) (w : List Nat) (k : Cand) :
    k ∈ specCands M cm i w ↔
      ∃ u v, u ≠ [] ∧ w = u ++ v ∧ acceptsTid M.dfa cm u k.tid ∧ k.endPos = i + bytesLen u ∧
        ∃ l, M.laSpec cm k.tid v = some l ∧ k.extent = i + bytesLen u + l := by
  rw [mem_specCands]
  constructor
  · rintro ⟨u, v, hu, hw, s, hs, he, l, hl, rfl⟩
    exact ⟨u, v, hu, hw, ⟨s, hs, he, rfl⟩, rfl, l, hl, rfl⟩
  · rintro ⟨u, v, hu, hw, ⟨s, hs, he, ht⟩, hk, l, hl, hx⟩
    refine ⟨u, v, hu, hw, s, hs, he, l, ht ▸ hl, ?_⟩
    cases k
    simp only at ht hk hx
    rw [ht, hk, hx]

theorem specFindOK_some (M : ModeDfa) (cm) (i : Nat) (w : List Nat) (t e : Nat) :
    specFindOK M cm i w (some (t, e)) = true ↔
      ∃ k ∈ specCands M cm i w, k.tid = t ∧ k.endPos = e ∧ ∀ k' ∈ specCands M cm i w,
        k'.extent < k.extent ∨ (k'.extent = k.extent ∧ M.dfa.prioOf k.tid ≤ M.dfa.prioOf k'.tid) := by
  simp only [specFindOK, candGe, List.any_eq_true, Bool.and_eq_true, beq_iff_eq, List.all_eq_true,
    Bool.or_eq_true, decide_eq_true_eq, and_assoc]

theorem specFindOK_none (M : ModeDfa) (cm) (i : Nat) (w : List Nat) :
    specFindOK M cm i w none = true ↔ specCands M cm i w = [] := by
  simp only [specFindOK, List.isEmpty_iff]

theorem le_maxList {L : List Nat} {m : Nat} (hm : m ∈ L) : m ≤ maxList L := by
  induction L with
  | nil => cases hm
  | cons x r ih =>
    rcases List.mem_cons.mp hm with rfl | hm'
    · exact Nat.le_max_left _ _
    · exact Nat.le_trans (ih hm') (Nat.le_max_right _ _)

theorem maxList_mem {L : List Nat} (h : L ≠ []) : maxList L ∈ L := by
  induction L with
  | nil => exact absurd rfl h
  | cons y r ih =>
    cases r with
    | nil => exact List.mem_singleton.mpr (Nat.max_eq_left (Nat.zero_le y))
    | cons z zs =>
      have := ih (List.cons_ne_nil z zs)
      rw [maxList]
      rcases Nat.le_total y (maxList (z :: zs)) with h | h
      · rw [Nat.max_eq_right h]; exact List.mem_cons_of_mem _ this
      · rw [Nat.max_eq_left h]; exact List.mem_cons_self

theorem maxList_eq {L : List Nat} {m : Nat} (hm : m ∈ L) (hle : ∀ x ∈ L, x ≤ m) : maxList L = m :=
  Nat.le_antisymm (hle _ (maxList_mem (List.ne_nil_of_mem hm))) (le_maxList hm)

theorem laSpec_pos_iff (cm) (D : Dfa) (v : List Nat) (l : Nat) :
    laSpec cm ⟨true, D⟩ v = some l ↔ l ∈ accLens D cm v ∧ ∀ y ∈ accLens D cm v, y ≤ l := by
  unfold laSpec
  cases hL : accLens D cm v with
  | nil => exact iff_of_false nofun fun h => List.not_mem_nil h.1
  | cons x r =>
    have hne : x :: r ≠ [] := List.cons_ne_nil x r
    show some (maxList (x :: r)) = some l ↔ _
    rw [Option.some.injEq]
    exact ⟨fun h => h ▸ ⟨maxList_mem hne, fun y hy => le_maxList hy⟩, fun h => maxList_eq h.1 h.2⟩

theorem laSpec_neg_iff (cm) (D : Dfa) (v : List Nat) (l : Nat) :
    laSpec cm ⟨false, D⟩ v = some l ↔ l = 0 ∧ accLens D cm v = [] := by
  unfold laSpec
  cases accLens D cm v with
  | nil => exact ⟨fun h => ⟨(Option.some.inj h).symm, rfl⟩, fun h => h.1 ▸ rfl⟩
  | cons x r => exact iff_of_false nofun fun h => List.cons_ne_nil x r h.2

/-- The model of `satisfies_lookahead` computes the declarative lookahead condition. -/
theorem laEval_eq_laSpec (cm) (L : La) (v : List Nat) : laEval cm L v = laSpec cm L v := by
  -- without lookaheads a candidate is an accepted length, and its extent is its end
  have hcand : ∀ k, CandAt L.dfa cm noLa 0 v [0] k → k.endPos ∈ accLens L.dfa cm v ∧ k.extent = k.endPos := by
    intro k hk
    obtain ⟨u, r, hu, hv, s, hs, he, l, hl, rfl⟩ := (candAt_iff _ _ _ _ _ _ _).mp hk
    cases Option.some.inj hl
    exact ⟨mem_accLens.mpr ⟨u, r, hu, hv, ⟨s, hs, he⟩, Nat.zero_add _⟩, rfl⟩
  have hacc : ∀ x ∈ accLens L.dfa cm v, ∃ k, CandAt L.dfa cm noLa 0 v [0] k ∧ k.extent = x := by
    intro x hx
    obtain ⟨u, r, hu, hv, ⟨s, hs, he⟩, rfl⟩ := mem_accLens.mp hx
    exact ⟨_, (candAt_iff _ _ _ _ _ _ _).mpr ⟨u, r, hu, hv, s, hs, he, 0, rfl, rfl⟩, Nat.zero_add _⟩
  unfold laEval laSpec
  rcases loop_best L.dfa cm noLa 0 v [0] with ⟨hr, hno⟩ | ⟨b, hr, hb, hbest⟩
  · have hnil : accLens L.dfa cm v = [] :=
      List.eq_nil_iff_forall_not_mem.mpr fun x hx => (hacc x hx).elim fun k hk => hno k hk.1
    rw [hr, hnil]
    rfl
  · have hmax : maxList (accLens L.dfa cm v) = b.endPos := by
      refine maxList_eq (hcand b hb).1 fun y hy => ?_
      obtain ⟨k, hk, rfl⟩ := hacc y hy
      rw [← (hcand b hb).2]
      rcases hbest k hk with h | ⟨h, _⟩
      · exact Nat.le_of_lt h
      · exact Nat.le_of_eq h.symm
    have hne : (accLens L.dfa cm v).isEmpty = false :=
      List.isEmpty_eq_false_iff_exists_mem.mpr ⟨_, (hcand b hb).1⟩
    rw [hr, hne, hmax]
    rfl

theorem la_eq_laSpec (M : ModeDfa) (cm) : M.la cm = M.laSpec cm := by
  funext t v
  unfold ModeDfa.la ModeDfa.laSpec
  cases M.las.lookup t with
  | none => rfl
  | some L => exact laEval_eq_laSpec cm L v

/-- **Main theorem of the scan step** (C04, C05; with no lookaheads C01's longest-match rule):
    the result of `find_from` is a candidate of the trailing-context rule that no candidate beats,
    and `None` is returned only if there is no candidate at all. -/
theorem findFrom_specFindOK (M : ModeDfa) (cm : Nat → Nat → Bool) (i : Nat) (w : List Nat) :
    specFindOK M cm i w (findFrom M cm i w) = true := by
  unfold findFrom
  rw [la_eq_laSpec]
  rcases loop_best M.dfa cm (M.laSpec cm) i w [0] with ⟨hr, hno⟩ | ⟨b, hr, hb, hbest⟩
  · rw [hr, Option.map_none, specFindOK_none]
    exact List.eq_nil_iff_forall_not_mem.mpr fun k hk =>
      hno k ((candAt_iff_mem_specCands M cm i w k).mpr hk)
  · rw [hr, Option.map_some, specFindOK_some]
    refine ⟨b, (candAt_iff_mem_specCands M cm i w b).mp hb, rfl, rfl, fun k hk => ?_⟩
    exact (hbest k ((candAt_iff_mem_specCands M cm i w k).mpr hk)).imp id fun h => ⟨h.1.symm, h.2⟩

theorem findFrom_some (M : ModeDfa) (cm : Nat → Nat → Bool) (i : Nat) (w : List Nat)
    (t e : Nat) (h : findFrom M cm i w = some (t, e)) :
    ∃ k ∈ specCands M cm i w, k.tid = t ∧ k.endPos = e ∧
      ∀ k' ∈ specCands M cm i w,
        k'.extent < k.extent ∨ (k'.extent = k.extent ∧ M.dfa.prioOf k.tid ≤ M.dfa.prioOf k'.tid) :=
  (specFindOK_some M cm i w t e).mp (h ▸ findFrom_specFindOK M cm i w)

theorem findFrom_none_iff (M : ModeDfa) (cm : Nat → Nat → Bool) (i : Nat) (w : List Nat) :
    findFrom M cm i w = none ↔ specCands M cm i w = [] := by
  have h := findFrom_specFindOK M cm i w
  cases hr : findFrom M cm i w with
  | none => exact iff_of_true rfl ((specFindOK_none M cm i w).mp (hr ▸ h))
  | some r =>
    obtain ⟨k, hk, _⟩ := (specFindOK_some M cm i w r.1 r.2).mp (hr ▸ h)
    exact iff_of_false nofun fun hn => by rw [hn] at hk; cases hk

end Scnr

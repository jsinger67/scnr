import ScnrVerif.Model.World
/-!
# Cache transparency, isolation of iterators, interleaving independence

Both isolation theorems are simulations between a history and the history with the foreign operations
filtered out. What they need of `World.step` is said twice only: `step_frame` (a step leaves alone
what is not at the operation's slots) and `step_congr` (a step depends on the world only at the
operation's slots); a cached `build` is reduced to `build_uncached` by `step_build`.
-/
namespace Scnr

theorem lookup_filter {α : Type} (l : List (Nat × α)) (k j : Nat) :
    (l.filter (fun p => p.1 != k)).lookup j = if j = k then none else l.lookup j := by
  induction l with
  | nil => simp only [List.filter_nil, List.lookup_nil, ite_self]
  | cons p r ih =>
    obtain ⟨a, b⟩ := p
    by_cases ha : a = k
    · subst ha
      rw [List.filter_cons_of_neg (by simp), ih, List.lookup_cons]
      by_cases hj : j = a
      · rw [if_pos hj, if_pos hj]
      · rw [beq_false_of_ne hj]
    · rw [List.filter_cons_of_pos (by simpa using ha), List.lookup_cons, List.lookup_cons, ih]
      cases hja : j == a
      · rfl
      · exact (if_neg (by rw [eq_of_beq hja]; exact ha)).symm

theorem lookup_assocSet {α : Type} (l : List (Nat × α)) (k j : Nat) (v : α) :
    (assocSet l k v).lookup j = if j = k then some v else l.lookup j := by
  rw [assocSet, List.lookup_cons, lookup_filter]
  by_cases h : j = k
  · subst h
    rw [beq_self_eq_true]
    exact (if_pos rfl).symm
  · rw [if_neg h, if_neg h, beq_false_of_ne h]

theorem lookup_assocSet_self {α : Type} (l : List (Nat × α)) (k : Nat) (v : α) :
    (assocSet l k v).lookup k = some v :=
  (lookup_assocSet l k k v).trans (if_pos rfl)

theorem lookup_assocSet_congr {α β : Type} (g : Option α → β) {l l' : List (Nat × α)} (k : Nat) (v : α)
    {j : Nat} (e : g (l.lookup j) = g (l'.lookup j)) :
    g ((assocSet l k v).lookup j) = g ((assocSet l' k v).lookup j) := by
  rw [lookup_assocSet, lookup_assocSet]
  split
  · rfl
  · exact e

/-- Every cache entry is the compilation of its key. -/
def CacheInv (compile : CfgId → Option CompId) (cache : List (CfgId × CompId)) : Prop :=
  ∀ p ∈ cache, compile p.1 = some p.2

theorem lookup_of_inv {compile} {cache : List (CfgId × CompId)} (h : CacheInv compile cache) {cfg c}
    (hl : cache.lookup cfg = some c) : compile cfg = some c := by
  obtain ⟨l₁, l₂, rfl, -⟩ := List.lookup_eq_some_iff.mp hl
  exact h (cfg, c) (List.mem_append_right _ (List.mem_cons_self ..))

/-- `ScannerCache::get` over any key type and any lookup that only finds genuine entries.
    `cacheGet` and `cacheGetK` unfold to this `match` (with `found` their lookup), so both close
    `r = …` by `rfl`. -/
theorem get_spec {κ : Type} (compile : κ → Option CompId) (cache : List (κ × CompId)) (k : κ)
    (found : Option CompId) (h : ∀ p ∈ cache, compile p.1 = some p.2)
    (hf : ∀ c, found = some c → compile k = some c) :
    ∀ r, r = (match found with
      | some c => (cache, some c)
      | none => match compile k with
        | some c => ((k, c) :: cache, some c)
        | none => (cache, none)) →
    r.2 = compile k ∧ (∀ p ∈ r.1, compile p.1 = some p.2) ∧ (compile k = none → r.1 = cache) := by
  rintro r rfl
  cases found with
  | some c => exact ⟨(hf c rfl).symm, h, fun _ => rfl⟩
  | none =>
    cases hc : compile k with
    | none => exact ⟨rfl, h, fun _ => rfl⟩
    | some c =>
      refine ⟨rfl, fun p hp => ?_, nofun⟩
      rcases List.mem_cons.mp hp with rfl | hp
      · exact hc
      · exact h p hp

theorem cacheGet_spec (compile : CfgId → Option CompId) (cache : List (CfgId × CompId))
    (h : CacheInv compile cache) (cfg : CfgId) :
    (cacheGet compile cache cfg).2 = compile cfg ∧ CacheInv compile (cacheGet compile cache cfg).1 ∧
    (compile cfg = none → (cacheGet compile cache cfg).1 = cache) :=
  get_spec compile cache cfg (cache.lookup cfg) h (fun _ => lookup_of_inv h) _ rfl

theorem step_build (compile cfgOf findOf) (w : World) (h : CacheInv compile w.cache) (s : Nat) (cfg : CfgId) :
    World.step compile cfgOf findOf w (.build s cfg) =
      ({ (World.step compile cfgOf findOf w (.buildUncached s cfg)).1 with
          cache := (cacheGet compile w.cache cfg).1 },
       (World.step compile cfgOf findOf w (.buildUncached s cfg)).2) := by
  have e := (cacheGet_spec compile w.cache h cfg).1
  simp only [World.step]
  generalize cacheGet compile w.cache cfg = g at e ⊢
  obtain ⟨cache', r⟩ := g
  cases e
  cases compile cfg <;> rfl

theorem build_eq_uncached (compile cfgOf findOf) (w : World) (h : CacheInv compile w.cache) (s : Nat) (cfg : CfgId) :
    (World.step compile cfgOf findOf w (.build s cfg)).2 =
      (World.step compile cfgOf findOf w (.buildUncached s cfg)).2 ∧
    (World.step compile cfgOf findOf w (.build s cfg)).1.scanners =
      (World.step compile cfgOf findOf w (.buildUncached s cfg)).1.scanners ∧
    (World.step compile cfgOf findOf w (.build s cfg)).1.iters = w.iters ∧
    CacheInv compile (World.step compile cfgOf findOf w (.build s cfg)).1.cache := by
  rw [step_build compile cfgOf findOf w h]
  refine ⟨rfl, rfl, ?_, (cacheGet_spec compile w.cache h cfg).2.1⟩
  simp only [World.step]
  split <;> rfl

/-- the scanner slot an operation reads or writes, if any (`Op.iterSlot`: its iterator slot) -/
def Op.scannerSlot : Op → Option Nat
  | .build s _ | .buildUncached s _ | .scannerSetMode s _ | .scannerCurrentMode s | .findIter s _ _ => some s
  | _ => none

def Op.iterSlot : Op → Option Nat
  | .findIter _ k _ | .iter k _ | .dropIter k => some k
  | _ => none

/-- `build` or `build_uncached` (`Op.isBuild` of `Model/Lock.lean` is the cached `build` alone) -/
def Op.builds : Op → Bool
  | .build _ _ | .buildUncached _ _ => true
  | _ => false

/-- the operation only uses slots for which `own` holds; one predicate for both kinds of slot, so
    scanner slot `n` and iterator slot `n` have the same owner -/
def Op.within (own : Nat → Bool) (o : Op) : Bool :=
  (match o.scannerSlot with | some s => own s | none => true) &&
  (match o.iterSlot with | some k => own k | none => true)

/-- Two worlds look the same to the owner of the slots `own`: same owned scanners and iterators;
    the caches may differ but both only hold genuine compilations. -/
structure SimOwn (compile : CfgId → Option CompId) (own : Nat → Bool) (w w' : World) : Prop where
  inv : CacheInv compile w.cache
  inv' : CacheInv compile w'.cache
  sc : ∀ s, own s = true → w.scanners.lookup s = w'.scanners.lookup s
  it : ∀ k, own k = true → w.iters.lookup k = w'.iters.lookup k

/-- What a step by `o` from `w` to `w1` leaves alone: every scanner and iterator slot but the
    operation's own, the compilation held by every scanner slot unless the operation is a build, and
    the cache invariant. One proposition about `w1`, so that `step_frame` unfolds the step once per
    operation and not once per conjunct (`StepAgree` likewise). -/
abbrev Frame (compile : CfgId → Option CompId) (o : Op) (w w1 : World) : Prop :=
  (∀ s, o.scannerSlot ≠ some s → w1.scanners.lookup s = w.scanners.lookup s) ∧
  (∀ k, o.iterSlot ≠ some k → w1.iters.lookup k = w.iters.lookup k) ∧
  (o.builds = false → ∀ s, (w1.scanners.lookup s).map (·.comp) = (w.scanners.lookup s).map (·.comp)) ∧
  CacheInv compile w1.cache

section
variable (compile : CfgId → Option CompId) (cfgOf : CompId → List ModeCfg) (findOf : CompId → Finder)

theorem step_frame (w : World) (hc : CacheInv compile w.cache) (o : Op) :
    Frame compile o w (World.step compile cfgOf findOf w o).1 := by
  have same : Frame compile o w w := ⟨fun _ _ => rfl, fun _ _ => rfl, fun _ _ => rfl, hc⟩
  have other {α : Type} (l : List (Nat × α)) (a : Nat) (v : α) (slot : Option Nat) (e : slot = some a)
      (j : Nat) (h : slot ≠ some j) : (assocSet l a v).lookup j = l.lookup j :=
    (lookup_assocSet ..).trans (if_neg fun c => h (by rw [e, c]))
  have setS (a : Nat) (v : ScannerSt) (e : o.scannerSlot = some a)
      (hv : o.builds = false → (w.scanners.lookup a).map (·.comp) = some v.comp) :
      Frame compile o w { w with scanners := assocSet w.scanners a v } := by
    refine ⟨other _ a v _ e, fun _ _ => rfl, fun hb s => ?_, hc⟩
    rw [lookup_assocSet]
    split
    · next c => rw [c, hv hb]; rfl
    · rfl
  have setI (k : Nat) (v : IterSt) (e : o.iterSlot = some k) :
      Frame compile o w { w with iters := assocSet w.iters k v } :=
    ⟨fun _ _ => rfl, other _ k v _ e, fun _ _ => rfl, hc⟩
  have unc (a : Nat) (cfg : CfgId) (e : o.scannerSlot = some a) (hb : o.builds = true) :
      Frame compile o w (World.step compile cfgOf findOf w (.buildUncached a cfg)).1 := by
    simp only [World.step]
    split
    · exact setS a _ e fun h => by rw [hb] at h; cases h
    · exact same
  cases o with
  | build a cfg =>
    rw [step_build compile cfgOf findOf w hc]
    obtain ⟨f1, f2, f3, -⟩ := unc a cfg rfl rfl
    exact ⟨f1, f2, f3, (cacheGet_spec compile w.cache hc cfg).2.1⟩
  | buildUncached a cfg => exact unc a cfg rfl rfl
  | scannerSetMode a m =>
    simp only [World.step]
    split
    · next sc hl => exact setS a _ rfl fun _ => by rw [hl]; rfl
    · exact same
  | scannerCurrentMode a =>
    simp only [World.step]
    split <;> exact same
  | findIter a j input =>
    simp only [World.step]
    split
    · exact setI j _ rfl
    · exact same
  | iter j op =>
    simp only [World.step]
    split
    · exact setI j _ rfl
    · exact same
  | dropIter j =>
    exact ⟨fun _ _ => rfl, fun k h => (lookup_filter ..).trans (if_neg fun (c : k = j) => h (c ▸ rfl)),
      fun _ _ => rfl, hc⟩

theorem step_cacheInv (w : World) (h : CacheInv compile w.cache) (o : Op) :
    CacheInv compile (World.step compile cfgOf findOf w o).1.cache :=
  (step_frame compile cfgOf findOf w h o).2.2.2

theorem run_append (w : World) (a b : List Op) :
    World.run compile cfgOf findOf w (a ++ b) =
      ((World.run compile cfgOf findOf (World.run compile cfgOf findOf w a).1 b).1,
       (World.run compile cfgOf findOf w a).2 ++
         (World.run compile cfgOf findOf (World.run compile cfgOf findOf w a).1 b).2) := by
  induction a generalizing w with
  | nil => simp [World.run]
  | cons o os ih => simp only [List.cons_append, World.run, ih]

theorem run_length (w : World) (a : List Op) :
    (World.run compile cfgOf findOf w a).2.length = a.length := by
  induction a generalizing w with
  | nil => rfl
  | cons o os ih => simp only [World.run, List.length_cons, ih]

theorem run_cacheInv (w : World) (h : CacheInv compile w.cache) (ops : List Op) :
    CacheInv compile (World.run compile cfgOf findOf w ops).1.cache := by
  induction ops generalizing w with
  | nil => exact h
  | cons o os ih =>
    simp only [World.run]
    exact ih _ (step_cacheInv compile cfgOf findOf w h o)

/-- the results `r`, `r'` of a step in `w`, `w'` return the same and keep every agreement of a slot,
    also the agreement of a scanner slot in its compilation alone -/
abbrev StepAgree (w w' : World) (r r' : World × Out) : Prop :=
  r.2 = r'.2 ∧
  (∀ s, w.scanners.lookup s = w'.scanners.lookup s → r.1.scanners.lookup s = r'.1.scanners.lookup s) ∧
  (∀ s, (w.scanners.lookup s).map (·.comp) = (w'.scanners.lookup s).map (·.comp) →
    (r.1.scanners.lookup s).map (·.comp) = (r'.1.scanners.lookup s).map (·.comp)) ∧
  (∀ k, w.iters.lookup k = w'.iters.lookup k → r.1.iters.lookup k = r'.1.iters.lookup k)

/-- A step depends on the world only at the slots of the operation (`StepAgree`); a build does not read
    its scanner slot, it only writes it, hence `o.builds = false` in `hs`. -/
theorem step_congr (w w' : World) (o : Op) (hc : CacheInv compile w.cache) (hc' : CacheInv compile w'.cache)
    (hs : ∀ s, o.scannerSlot = some s → o.builds = false → w.scanners.lookup s = w'.scanners.lookup s)
    (hi : ∀ k, o.iterSlot = some k → w.iters.lookup k = w'.iters.lookup k) :
    StepAgree w w' (World.step compile cfgOf findOf w o) (World.step compile cfgOf findOf w' o) := by
  have same (x : Out) : StepAgree w w' (w, x) (w', x) := ⟨rfl, fun _ e => e, fun _ e => e, fun _ e => e⟩
  have setS (a : Nat) (v : ScannerSt) (x : Out) : StepAgree w w'
      ({ w with scanners := assocSet w.scanners a v }, x) ({ w' with scanners := assocSet w'.scanners a v }, x) :=
    ⟨rfl, fun _ e => lookup_assocSet_congr id a v e, fun _ e => lookup_assocSet_congr (·.map _) a v e, fun _ e => e⟩
  have setI (k : Nat) (v : IterSt) (x : Out) : StepAgree w w'
      ({ w with iters := assocSet w.iters k v }, x) ({ w' with iters := assocSet w'.iters k v }, x) :=
    ⟨rfl, fun _ e => e, fun _ e => e, fun _ e => lookup_assocSet_congr id k v e⟩
  have unc (a : Nat) (cfg : CfgId) : StepAgree w w' (World.step compile cfgOf findOf w (.buildUncached a cfg))
      (World.step compile cfgOf findOf w' (.buildUncached a cfg)) := by
    simp only [World.step]
    cases compile cfg with
    | none => exact same _
    | some c => exact setS a _ _
  cases o with
  | build a cfg =>
    rw [step_build compile cfgOf findOf w hc, step_build compile cfgOf findOf w' hc']
    exact unc a cfg
  | buildUncached a cfg => exact unc a cfg
  | scannerSetMode a m =>
    simp only [World.step]
    rw [← hs a rfl rfl]
    cases w.scanners.lookup a with
    | none => exact same _
    | some sc => exact setS a _ _
  | scannerCurrentMode a =>
    simp only [World.step]
    rw [← hs a rfl rfl]
    cases w.scanners.lookup a <;> exact same _
  | findIter a k input =>
    simp only [World.step]
    rw [← hs a rfl rfl]
    cases w.scanners.lookup a with
    | none => exact same _
    | some sc => exact setI k _ _
  | iter k op =>
    simp only [World.step]
    rw [← hi k rfl]
    cases w.iters.lookup k with
    | none => exact same _
    | some st => exact setI k _ _
  | dropIter k =>
    refine ⟨rfl, fun _ e => e, fun _ e => e, fun j e => ?_⟩
    simp only [World.step]
    rw [lookup_filter, lookup_filter, e]

theorem within_slots {own : Nat → Bool} {o : Op} (h : o.within own = true) :
    (∀ s, o.scannerSlot = some s → own s = true) ∧ (∀ k, o.iterSlot = some k → own k = true) := by
  simp only [Op.within, Bool.and_eq_true] at h
  constructor
  · intro s e
    rw [e] at h
    exact h.1
  · intro k e
    rw [e] at h
    exact h.2

theorem step_mine (own : Nat → Bool) (w w' : World) (h : SimOwn compile own w w')
    (o : Op) (ho : o.within own = true) :
    (World.step compile cfgOf findOf w o).2 = (World.step compile cfgOf findOf w' o).2 ∧
    SimOwn compile own (World.step compile cfgOf findOf w o).1 (World.step compile cfgOf findOf w' o).1 := by
  obtain ⟨e, sc, -, it⟩ := step_congr compile cfgOf findOf w w' o h.inv h.inv'
    (fun s hs _ => h.sc s ((within_slots ho).1 s hs)) (fun k hk => h.it k ((within_slots ho).2 k hk))
  exact ⟨e, step_cacheInv compile cfgOf findOf w h.inv o, step_cacheInv compile cfgOf findOf w' h.inv' o,
    fun s hs => sc s (h.sc s hs), fun k hk => it k (h.it k hk)⟩

theorem step_other (own : Nat → Bool) (w w' : World) (h : SimOwn compile own w w')
    (o : Op) (ho : o.within (fun x => !own x) = true) :
    SimOwn compile own (World.step compile cfgOf findOf w o).1 w' := by
  refine ⟨step_cacheInv compile cfgOf findOf w h.inv o, h.inv', fun s hs => ?_, fun k hk => ?_⟩
  · rw [(step_frame compile cfgOf findOf w h.inv o).1 s, h.sc s hs]
    intro e
    have := (within_slots ho).1 s e
    rw [hs] at this
    cases this
  · rw [(step_frame compile cfgOf findOf w h.inv o).2.1 k, h.it k hk]
    intro e
    have := (within_slots ho).2 k e
    rw [hk] at this
    cases this

end

/-- Outputs of the owner's operations in a history (in order). -/
def outputsOf (own : Nat → Bool) : List Op → List Out → List Out
  | o :: os, r :: rs => if o.within own then r :: outputsOf own os rs else outputsOf own os rs
  | _, _ => []

theorem interleaving_independent (compile cfgOf findOf) (own : Nat → Bool) (ops : List Op)
    (hops : ∀ o ∈ ops, o.within own = true ∨ o.within (fun x => !own x) = true)
    (w w' : World) (h : SimOwn compile own w w') :
    outputsOf own ops (World.run compile cfgOf findOf w ops).2 =
      (World.run compile cfgOf findOf w' (ops.filter (·.within own))).2 := by
  induction ops generalizing w w' with
  | nil => rfl
  | cons o os ih =>
    have ih := ih fun x hx => hops x (List.mem_cons_of_mem _ hx)
    simp only [World.run, outputsOf, List.filter_cons]
    split
    · next hm =>
      obtain ⟨e, hs⟩ := step_mine compile cfgOf findOf own w w' h o hm
      simp only [World.run]
      rw [e, ih _ _ hs]
    · next hm =>
      have ho := (hops o (List.mem_cons_self ..)).resolve_left hm
      exact ih _ _ (step_other compile cfgOf findOf own w w' h o ho)

/-- operations that can influence iterator `k`: its own calls, its creation and drop, and builds
    (which decide the compilation a later `find_iter` clones) -/
def affectsIter (k : Nat) : Op → Bool
  | .findIter _ j _ => j == k
  | .iter j _ => j == k
  | .dropIter j => j == k
  | .build _ _ => true
  | .buildUncached _ _ => true
  | .scannerSetMode _ _ => false
  | .scannerCurrentMode _ => false

def isIterCall (k : Nat) : Op → Bool
  | .iter j _ => j == k
  | _ => false

/-- The two worlds look the same to iterator `k`: the same compilation in every scanner slot (modes
    may differ) and the same iterator `k`. -/
structure SimIt (compile : CfgId → Option CompId) (k : Nat) (w w' : World) : Prop where
  inv : CacheInv compile w.cache
  inv' : CacheInv compile w'.cache
  comp : ∀ s, (w.scanners.lookup s).map (·.comp) = (w'.scanners.lookup s).map (·.comp)
  it : w.iters.lookup k = w'.iters.lookup k

theorem affects_of_not {k : Nat} {o : Op} (h : affectsIter k o = false) :
    o.builds = false ∧ o.iterSlot ≠ some k := by
  cases o with
  | build | buildUncached => cases h
  | scannerSetMode | scannerCurrentMode => exact ⟨rfl, nofun⟩
  | findIter _ j _ | iter j _ | dropIter j =>
    exact ⟨rfl, fun e => by rw [Option.some.inj e, affectsIter, beq_self_eq_true] at h; cases h⟩

theorem findIter_iters (compile cfgOf findOf) (w : World) (s k : Nat) (input : List Nat) :
    (World.step compile cfgOf findOf w (.findIter s k input)).1.iters.lookup k =
      match (w.scanners.lookup s).map (·.comp) with
      | some c => some ⟨c, Iter.new input⟩
      | none => w.iters.lookup k := by
  simp only [World.step]
  cases w.scanners.lookup s with
  | none => rfl
  | some sc => exact lookup_assocSet_self ..

theorem step_affecting (compile cfgOf findOf) (k : Nat) (w w' : World) (h : SimIt compile k w w')
    (o : Op) (ho : affectsIter k o = true) :
    (isIterCall k o = true →
      (World.step compile cfgOf findOf w o).2 = (World.step compile cfgOf findOf w' o).2) ∧
    SimIt compile k (World.step compile cfgOf findOf w o).1 (World.step compile cfgOf findOf w' o).1 := by
  have i1 := step_cacheInv compile cfgOf findOf w h.inv o
  have i2 := step_cacheInv compile cfgOf findOf w' h.inv' o
  have cg := step_congr compile cfgOf findOf w w' o h.inv h.inv'
  cases o with
  | scannerSetMode | scannerCurrentMode => cases ho
  | build | buildUncached =>
    obtain ⟨-, -, comp, it⟩ := cg (fun _ _ hb => nomatch hb) nofun
    exact ⟨nofun, i1, i2, fun s => comp s (h.comp s), it k h.it⟩
  | iter j _ | dropIter j =>
    -- an operation on iterator `k` alone reads nothing but that iterator
    cases eq_of_beq ho
    obtain ⟨e, -, comp, it⟩ := cg nofun (fun _ e => by cases e; exact h.it)
    exact ⟨fun _ => e, i1, i2, fun s => comp s (h.comp s), it k h.it⟩
  | findIter s j input =>
    cases eq_of_beq ho
    obtain ⟨-, -, c1, -⟩ := step_frame compile cfgOf findOf w h.inv (.findIter s k input)
    obtain ⟨-, -, c2, -⟩ := step_frame compile cfgOf findOf w' h.inv' (.findIter s k input)
    refine ⟨nofun, i1, i2, fun s' => (c1 rfl s').trans ((h.comp s').trans (c2 rfl s').symm), ?_⟩
    rw [findIter_iters, findIter_iters, h.comp s, h.it]

theorem step_not_affecting (compile cfgOf findOf) (k : Nat) (w w' : World) (h : SimIt compile k w w')
    (o : Op) (ho : affectsIter k o = false) :
    SimIt compile k (World.step compile cfgOf findOf w o).1 w' :=
  have ⟨_, f, c, _⟩ := step_frame compile cfgOf findOf w h.inv o
  ⟨step_cacheInv compile cfgOf findOf w h.inv o, h.inv',
    fun s => (c (affects_of_not ho).1 s).trans (h.comp s), (f k (affects_of_not ho).2).trans h.it⟩

def outputsOfIter (k : Nat) : List Op → List Out → List Out
  | o :: os, r :: rs => if isIterCall k o then r :: outputsOfIter k os rs else outputsOfIter k os rs
  | _, _ => []

theorem iterator_isolated (compile cfgOf findOf) (k : Nat) (ops : List Op) (w w' : World)
    (h : SimIt compile k w w') :
    outputsOfIter k ops (World.run compile cfgOf findOf w ops).2 =
      outputsOfIter k (ops.filter (affectsIter k))
        (World.run compile cfgOf findOf w' (ops.filter (affectsIter k))).2 := by
  induction ops generalizing w w' with
  | nil => rfl
  | cons o os ih =>
    cases ha : affectsIter k o with
    | true =>
      obtain ⟨e, hs⟩ := step_affecting compile cfgOf findOf k w w' h o ha
      simp only [List.filter_cons, ha, if_true, World.run, outputsOfIter]
      split
      · next hc => rw [e hc, ih _ _ hs]
      · exact ih _ _ hs
    | false =>
      have hc : isIterCall k o = false := by
        cases o with
        | iter j _ => exact ha
        | _ => rfl
      simp only [List.filter_cons, ha, World.run, outputsOfIter, hc]
      exact ih _ _ (step_not_affecting compile cfgOf findOf k w w' h o ha)

end Scnr

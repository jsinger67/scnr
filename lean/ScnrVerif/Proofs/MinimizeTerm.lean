import ScnrVerif.Proofs.MinimizeInv
/-!
# The refinement loop reaches a fixpoint (track A)

With `fuel` = number of states the loop of the model always stops at a fixpoint: groups are
strictly sorted lists (`BTreeSet`s), an unsplit group is returned unchanged, every proper split
lengthens the partition, and a partition of `n` states into non-empty disjoint groups has at most
`n` groups. Hence `minimize_preserves_all` needs no hypothesis about the computed partition.
-/
namespace Scnr

theorem splitGroup_sorted (A : Dfa) (P : List (List Nat)) (g : List Nat) : ∀ p ∈ splitGroup A P g, StrictSorted p := by
  rw [splitGroup_eq]
  exact List.forall_mem_map.mpr (List.foldlRecOn g _ (motive := fun m : SigMap => ∀ e ∈ m, StrictSorted e.2) nofun
    fun m hm s _ => insertSig_values (Q := StrictSorted) _ s m hm (fun _ _ => normNat_sorted _) ⟨nofun, trivial⟩)

/-- the extended invariant: groups are strictly sorted, contain only states, and no group occurs twice -/
structure PartInv2 (A : Dfa) (P : List (List Nat)) : Prop extends PartInv A P where
  sorted : ∀ g ∈ P, StrictSorted g
  inRange : ∀ g ∈ P, ∀ s ∈ g, s < A.trans.length
  nodup : P.Nodup

/-- the key by which `calculate_initial_partition` groups the states -/
def endKey (A : Dfa) (s : Nat) : Option Nat := if A.isEnd s then some (A.tidOf s) else none

theorem endKey_eq_none {A : Dfa} {s : Nat} : endKey A s = none ↔ A.isEnd s = false := by
  unfold endKey
  cases A.isEnd s <;> simp

theorem endKey_eq_some {A : Dfa} {s t : Nat} : endKey A s = some t ↔ A.isEnd s = true ∧ A.tidOf s = t := by
  unfold endKey
  cases A.isEnd s <;> simp

theorem initialPartition_eq (A : Dfa) :
    initialPartition A =
      (none :: (normNat (((List.range A.trans.length).filter A.isEnd).map A.tidOf)).map some).map
        fun κ => (List.range A.trans.length).filter fun s => endKey A s == κ := by
  simp only [initialPartition, List.map_cons, List.map_map]
  congr 1
  · exact List.filter_congr fun s _ => by
      rw [Bool.eq_iff_iff, beq_iff_eq, endKey_eq_none, Bool.not_eq_true']
  · exact List.map_congr_left fun t _ => List.filter_congr fun s _ => by
      rw [Bool.eq_iff_iff, beq_iff_eq, endKey_eq_some, Bool.and_eq_true, beq_iff_eq]

theorem partInv2_of_keys (A : Dfa) {κ : Type} [BEq κ] [LawfulBEq κ] (key : Nat → κ) (keys : List κ)
    (hnd : keys.Nodup) (hhit : ∀ k ∈ keys, ∃ s, s < A.trans.length ∧ key s = k)
    (hall : ∀ s, s < A.trans.length → key s ∈ keys)
    (hhom : ∀ s s', key s = key s' → A.isEnd s = A.isEnd s' ∧ (A.isEnd s = true → A.tidOf s = A.tidOf s')) :
    PartInv2 A (keys.map fun k => (List.range A.trans.length).filter fun s => key s == k) := by
  have mem : ∀ k s, s ∈ (List.range A.trans.length).filter (fun s => key s == k) ↔
      s < A.trans.length ∧ key s = k := fun k s => by
    rw [List.mem_filter, List.mem_range, beq_iff_eq]
  refine ⟨⟨?_, ?_, ?_, ?_⟩, ?_, ?_, ?_⟩
  · intro g hg
    obtain ⟨k, hk, rfl⟩ := List.mem_map.mp hg
    obtain ⟨s, hs⟩ := hhit k hk
    exact List.ne_nil_of_mem ((mem k s).mpr hs)
  · exact fun s hs => ⟨_, List.mem_map.mpr ⟨key s, hall s hs, rfl⟩, (mem _ s).mpr ⟨hs, rfl⟩⟩
  · intro g hg g' hg' s hs hs'
    obtain ⟨k, _, rfl⟩ := List.mem_map.mp hg
    obtain ⟨k', _, rfl⟩ := List.mem_map.mp hg'
    rw [← ((mem k s).mp hs).2, ← ((mem k' s).mp hs').2]
  · intro g hg s hs s' hs'
    obtain ⟨k, _, rfl⟩ := List.mem_map.mp hg
    exact hhom s s' (((mem k s).mp hs).2.trans ((mem k s').mp hs').2.symm)
  · intro g hg
    obtain ⟨k, _, rfl⟩ := List.mem_map.mp hg
    exact filter_range_sorted _ _
  · intro g hg s hs
    obtain ⟨k, _, rfl⟩ := List.mem_map.mp hg
    exact ((mem k s).mp hs).1
  · refine nodup_map_of_inj_on _ keys hnd fun k hk k' _ heq => ?_
    obtain ⟨s, hs⟩ := hhit k hk
    exact hs.2.symm.trans ((mem k' s).mp (heq ▸ (mem k s).mpr hs)).2

theorem initialPartition_inv2 (A : Dfa) (hn : 0 < A.trans.length) (h0 : A.isEnd 0 = false) :
    PartInv2 A (initialPartition A) := by
  rw [initialPartition_eq]
  have hmem : ∀ t, t ∈ normNat (((List.range A.trans.length).filter A.isEnd).map A.tidOf) ↔
      ∃ s, s < A.trans.length ∧ endKey A s = some t := fun t => by
    simp only [mem_normNat, List.mem_map, List.mem_filter, List.mem_range, endKey_eq_some, and_assoc]
  apply partInv2_of_keys A (endKey A)
  · rw [List.nodup_cons]
    refine ⟨by simp, nodup_map_of_inj_on _ _ (strictSorted_nodup (normNat_sorted _)) fun _ _ _ _ => Option.some.inj⟩
  · intro k hk
    rcases List.mem_cons.mp hk with rfl | hk
    · -- the only use of `h0`: the group of non-accepting states is created unconditionally and must be non-empty
      exact ⟨0, hn, endKey_eq_none.mpr h0⟩
    · obtain ⟨t, ht, rfl⟩ := List.mem_map.mp hk
      exact (hmem t).mp ht
  · intro s hs
    cases hk : endKey A s with
    | none => exact List.mem_cons_self
    | some t => exact List.mem_cons_of_mem _ (List.mem_map.mpr ⟨t, (hmem t).mpr ⟨s, hs, hk⟩, rfl⟩)
  · intro s s' h
    cases hk : endKey A s' with
    | none =>
      rw [endKey_eq_none.mp hk, endKey_eq_none.mp (h.trans hk)]
      exact ⟨rfl, nofun⟩
    | some t =>
      obtain ⟨e, ht⟩ := endKey_eq_some.mp (h.trans hk)
      obtain ⟨e', ht'⟩ := endKey_eq_some.mp hk
      exact ⟨e.trans e'.symm, fun _ => ht.trans ht'.symm⟩

theorem refine_inv2 (A : Dfa) (P : List (List Nat)) (h : PartInv2 A P) : PartInv2 A (refine A P) := by
  have hinv := refine_inv A P h.toPartInv
  refine ⟨hinv, ?_, ?_, ?_⟩
  · intro p hp
    unfold refine at hp
    obtain ⟨g, hg, hpg⟩ := List.mem_flatMap.mp hp
    exact splitGroup_sorted A P g p hpg
  · intro p hp s hs
    unfold refine at hp
    obtain ⟨g, hg, hpg⟩ := List.mem_flatMap.mp hp
    exact h.inRange g hg s ((splitGroup_spec A P g).sub p hpg s hs)
  · -- no part occurs twice: within one split by `splitGroup_nodup`, across groups by disjointness
    refine List.pairwise_flatMap.mpr ⟨fun g _ => splitGroup_nodup A P g, h.nodup.imp_of_mem ?_⟩
    intro g g' hg hg' hne p hp q hq heq
    subst heq
    have sg := splitGroup_spec A P g
    have sg' := splitGroup_spec A P g'
    obtain ⟨s, hs⟩ := List.exists_mem_of_ne_nil _ (sg.nonempty p hp)
    exact hne (h.disjoint g hg g' hg' s (sg.sub p hp s hs) (sg'.sub p hq s hs))

theorem splitGroup_unsplit (A : Dfa) (P : List (List Nat)) (g : List Nat) (hs : StrictSorted g)
    (h1 : (splitGroup A P g).length = 1) : splitGroup A P g = [g] := by
  obtain ⟨p, hf⟩ := List.length_eq_one_iff.mp h1
  have sg := splitGroup_spec A P g
  have hp := splitGroup_sorted A P g
  rw [hf] at sg hp ⊢
  rw [strictSorted_ext (hp p List.mem_cons_self) hs fun x => ⟨sg.sub p List.mem_cons_self x, fun hx => ?_⟩]
  obtain ⟨q, hq, hxq⟩ := sg.all x hx
  rwa [List.mem_singleton.mp hq] at hxq

/-- Stated for any list `L` of groups so that the induction leaves the `P` inside `splitGroup` alone;
    the second part is what `refine_eq_or_longer` uses. -/
theorem refine_length (A : Dfa) (P L : List (List Nat)) (hne : ∀ g ∈ L, g ≠ []) (hs : ∀ g ∈ L, StrictSorted g) :
    L.length ≤ (L.flatMap (splitGroup A P)).length ∧
    ((L.flatMap (splitGroup A P)).length ≤ L.length → L.flatMap (splitGroup A P) = L) := by
  induction L with
  | nil => exact ⟨Nat.le_refl _, fun _ => rfl⟩
  | cons g L' ih =>
    rw [List.forall_mem_cons] at hne hs
    obtain ⟨i1, i2⟩ := ih hne.2 hs.2
    have hpos : 0 < (splitGroup A P g).length := by
      obtain ⟨s, hsg⟩ := List.exists_mem_of_ne_nil _ hne.1
      obtain ⟨p, hp, _⟩ := (splitGroup_spec A P g).all s hsg
      exact List.length_pos_of_mem hp
    simp only [List.flatMap_cons, List.length_append, List.length_cons]
    refine ⟨by omega, fun heq => ?_⟩
    rw [splitGroup_unsplit A P g hs.1 (by omega), i2 (by omega)]
    rfl

theorem refine_eq_or_longer (A : Dfa) (P : List (List Nat)) (h : PartInv2 A P) :
    refine A P = P ∨ P.length < (refine A P).length := by
  have l2 := (refine_length A P P h.nonempty h.sorted).2
  rcases Nat.lt_or_ge P.length (refine A P).length with hl | hl
  · exact .inr hl
  · exact .inl (l2 hl)

theorem partition_length_le (A : Dfa) (P : List (List Nat)) (h : PartInv2 A P) : P.length ≤ A.trans.length := by
  -- the first elements of the groups are distinct states
  have hheads : (P.map (fun g => g.headD 0)).Nodup :=
    nodup_map_of_inj_on _ P h.nodup fun g hg g' hg' heq =>
      h.disjoint g hg g' hg' _ (headD_mem (h.nonempty g hg)) (heq ▸ headD_mem (h.nonempty g' hg'))
  rw [← List.length_map (fun g => g.headD 0)]
  refine nodup_length_le_of_bounded _ 0 _ hheads fun x hx => ?_
  obtain ⟨g, hg, rfl⟩ := List.mem_map.mp hx
  exact ⟨Nat.zero_le _, Nat.zero_add _ ▸ h.inRange g hg _ (headD_mem (h.nonempty g hg))⟩

theorem refineLoop_inv2 (A : Dfa) (fuel : Nat) (P : List (List Nat)) (h : PartInv2 A P) :
    PartInv2 A (refineLoop A fuel P) := by
  induction fuel generalizing P with
  | zero => exact refine_inv2 A P h
  | succ f ih =>
    unfold refineLoop
    split
    · exact refine_inv2 A P h
    · exact ih _ (refine_inv2 A P h)

/-- **The loop stops at a fixpoint** when the fuel covers the possible growth of the partition. -/
theorem refineLoop_fixpoint (A : Dfa) (fuel : Nat) (P : List (List Nat)) (h : PartInv2 A P)
    (hf : A.trans.length ≤ P.length + fuel) :
    refine A (refineLoop A fuel P) = refineLoop A fuel P := by
  induction fuel generalizing P with
  | zero =>
    have hle := partition_length_le A (refine A P) (refine_inv2 A P h)
    have heq : refine A P = P := (refine_eq_or_longer A P h).resolve_right (by omega)
    rw [refineLoop, heq, heq]
  | succ f ih =>
    unfold refineLoop
    split
    · rename_i hfix
      rw [hfix, hfix]
    · rename_i hfix
      have := (refine_eq_or_longer A P h).resolve_left hfix
      exact ih _ (refine_inv2 A P h) (by omega)

/-- **Track A, all automata, no hypothesis on the computed partition**: the model of
    `Minimizer::minimize` preserves acceptance of every word for every terminal, for every automaton
    whose transition targets are states and whose start state is not accepting. -/
theorem minimize_preserves_all (A : Dfa) (hn : 0 < A.trans.length) (h0 : A.isEnd 0 = false)
    (htar : ∀ s cc t, (cc, t) ∈ A.outs s → t < A.trans.length)
    (cm : Nat → Nat → Bool) (w : List Nat) (t : Nat) :
    acceptsTid (minimize A) cm w t ↔ acceptsTid A cm w t :=
  have h2 := initialPartition_inv2 A hn h0
  createFromPartition_preserves A _ (fixpoint_good A _ (refineLoop_inv2 A _ _ h2).toPartInv htar
    (refineLoop_fixpoint A _ _ h2 (by omega))) hn cm w t

theorem minimize_states_le (A : Dfa) (hn : 0 < A.trans.length) (h0 : A.isEnd 0 = false) :
    (minimize A).trans.length ≤ A.trans.length := by
  have h2 := refineLoop_inv2 A A.trans.length _ (initialPartition_inv2 A hn h0)
  simp only [minimize, createFromPartition, List.length_map, (startFirst_perm _).length_eq]
  exact partition_length_le A _ h2

end Scnr

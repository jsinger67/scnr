import ScnrVerif.Model.DotText
/-!
# Round trip of the DOT text layer (C18)

The round trip `decodeDot_parseDot_renderDot` goes through three layers, each with its own
description of the written document: characters → tokens (`docToks`; a piece of text is scanned
from a lexer state to a lexer state, `Lexes`, and pieces compose, `Lexes.append`), tokens →
statements (`docStmts`; `ParsesTo`: the parser never needs more fuel than there are tokens; a piece
of the tokens is a piece of the statements whatever follows it, `ReadsAs`, and pieces compose,
`ReadsAs.append`), statements → document (the three decoders are one traversal, `collect`). It needs less than
`DotDoc.textOK` (`DocOK`) and so holds for `dotDoc M` of every mode `M`.

## What is accepted (see the grammar in `Model/DotText.lean`)

Lexer: whitespace (blank, tab, LF, VT, FF, CR); comments `/* .. */`, `// ..`, lines whose first
character is `#`; identifiers `[A-Za-z_\x80-][A-Za-z_0-9\x80-]*` (every code point from 0x80 on is
a letter); numerals `-?(\.[0-9]+|[0-9]+(\.[0-9]*)?)`; quoted strings (a backslash takes the next
character with it; the raw content is kept); `{ } [ ] = , ;` and `->`.
Parser: `[strict] digraph [ID] { stmt_list }`, exactly one per file; statements `ID = ID`,
`(graph|node|edge) attr_list`, `ID (-> ID)* [attr_list]`, `[subgraph [ID]] { stmt_list }`, each
optionally followed by one `;`; attribute lists `[ID = ID ...]` with `,`, `;` or nothing between
entries, possibly empty, possibly several in a row; keywords in any case; keywords are not IDs.

## What is rejected although Graphviz accepts it (deliberately outside of the subset)

undirected graphs (`graph`, `--`), ports (`a:p`), HTML strings (`<...>`), subgraphs as edge
endpoints (`{a b} -> c`), `+` concatenation of strings, a numeral directly followed by a letter or
a second dot (`3abc`, `1.2.3`: Graphviz splits them with a warning), a `.` inside a bare
identifier, `\`-newline line continuation inside strings (the two characters stay in the raw
content), `#` lines that start with blanks.

## What is undecodable (well-formed, but not a picture of an automaton)

a node whose name is not `<prefix><number>` or that has no `label`, a label that is neither
`<id> T<tid>` nor `<id>`, an edge without `label` or without trailing `(C#<n>)`, a cluster (a
subgraph whose name starts with `cluster`) whose label (`label = ..` or `graph [label = ..]`) is
not `LA for T<tid>(Pos|Neg)`. Blocks and non-cluster subgraphs only group: their nodes and edges
belong to the enclosing graph (their attribute statements are scoped and ignored); clusters
inside clusters are ignored.

## Differences from `dotparse.rs`

1. The grammar is the DOT grammar above, a superset of what `dotparse.rs` accepts, except: `.`
   inside bare identifiers (`a.b`), Unicode whitespace outside of strings (letters here), keywords
   used as names (`node = x`, `digraph node {`), which are rejected here.
2. `parse::<usize>` has no overflow check here (`parseNat` is unbounded; the optional leading `+`
   and leading zeros are accepted as in Rust).
3. `decode` sorts nodes and edges, the harness sorts clusters by token type (it compares pictures as
   sets); `decodeDot` keeps the order of the file, which is finer (the round trip holds with order).
4. The Rust `Graph` keeps only the last `label` of each (sub)graph, drops the other graph
   attributes and the cluster names, and sorts statements by kind; `DGraphT` keeps all statements in
   order, `decodeDot` extracts the same information (`lastLabel`, node/edge/cluster statements).
5. `decodeDot` reads the kind of a node from its label and number only (`"<id> T<tid>"` accepting,
   else the label must be `"<id>"` and node 0 is the start node) and ignores `shape`, `color`,
   `penwidth` and unknown attributes; `decode` reads the kind from `color` (blue/red/none, any
   other colour an error).
6. The lexer is one state machine (`lexStep`/`lexRun`); the recursion of the parser is bounded by
   fuel, which `pStmts_fuel` shows to be immaterial.
-/
namespace Scnr

theorem natDigitsGo_digit (f n : Nat) (acc : List Nat) (h : ∀ c ∈ acc, isDigit c = true) :
    ∀ c ∈ natDigitsGo f n acc, isDigit c = true := by
  fun_induction natDigitsGo f n acc with
  | case1 => exact h
  | case2 f n acc h10 =>
    exact List.forall_mem_cons.2 ⟨by simp [isDigit]; omega, h⟩
  | case3 f n acc h10 ih =>
    exact ih (List.forall_mem_cons.2 ⟨by simp [isDigit]; omega, h⟩)

theorem digitsVal_natDigitsGo (f n : Nat) (acc : List Nat) (h : n < f) :
    digitsVal (natDigitsGo f n acc) 0 = digitsVal acc n := by
  fun_induction natDigitsGo f n acc with
  | case1 => exact absurd h (Nat.not_lt_zero _)
  | case2 f n acc h10 => rw [digitsVal, Nat.zero_mul, Nat.zero_add, Nat.add_sub_cancel_left]
  | case3 f n acc h10 ih =>
    rw [ih (Nat.lt_of_lt_of_le (Nat.div_lt_self (by omega) (by decide)) (Nat.le_of_lt_succ h)),
      digitsVal, Nat.add_sub_cancel_left, Nat.div_add_mod']

theorem natDigitsGo_ne_nil (f n : Nat) (acc : List Nat) (h : 0 < f ∨ acc ≠ []) :
    natDigitsGo f n acc ≠ [] := by
  fun_induction natDigitsGo f n acc with
  | case1 acc => exact h.resolve_left (Nat.lt_irrefl 0)
  | case2 => exact List.cons_ne_nil _ _
  | case3 f n acc h10 ih => exact ih (.inr (List.cons_ne_nil _ _))

theorem natDigits_digit (n : Nat) : ∀ c ∈ natDigits n, isDigit c = true :=
  natDigitsGo_digit _ _ _ (fun _ h => nomatch h)

theorem natDigits_ne_nil (n : Nat) : natDigits n ≠ [] :=
  natDigitsGo_ne_nil _ _ _ (.inl (Nat.succ_pos n))

theorem digitsVal_natDigits (n : Nat) : digitsVal (natDigits n) 0 = n :=
  digitsVal_natDigitsGo _ _ _ (Nat.lt_succ_self n)

theorem natDigits_range {n c : Nat} (h : c ∈ natDigits n) : 48 ≤ c ∧ c ≤ 57 := by
  simpa [isDigit] using natDigits_digit n c h

theorem parseNat_digits {ds : List Nat} (hne : ds ≠ []) (hd : ∀ c ∈ ds, isDigit c = true) :
    parseNat ds = some (digitsVal ds 0) := by
  cases ds with
  | nil => exact absurd rfl hne
  | cons c r =>
    have hc43 : c ≠ 43 := fun h => by simpa [h, isDigit] using hd c List.mem_cons_self
    simp only [parseNat, dropPlus, hc43, if_false, parseDigits, List.isEmpty_cons, List.all_eq_true.2 hd,
      if_true, Bool.false_eq_true]

theorem parseNat_natDigits (n : Nat) : parseNat (natDigits n) = some n :=
  (parseNat_digits (natDigits_ne_nil n) (natDigits_digit n)).trans (congrArg some (digitsVal_natDigits n))

/-- neither a quote nor a backslash -/
def Plain (s : List Nat) : Prop := ∀ c ∈ s, c ≠ 34 ∧ c ≠ 92

theorem Plain.append {a b : List Nat} (ha : Plain a) (hb : Plain b) : Plain (a ++ b) :=
  List.forall_mem_append.2 ⟨ha, hb⟩

instance (s : List Nat) : Decidable (Plain s) :=
  inferInstanceAs (Decidable (∀ c ∈ s, c ≠ 34 ∧ c ≠ 92))

theorem plain_natDigits (n : Nat) : Plain (natDigits n) := by
  intro c hc
  have := natDigits_range hc
  omega

theorem strSafe_of_plain {s : List Nat} (h : Plain s) : strSafe s = true := by
  unfold strSafe
  induction s with
  | nil => rfl
  | cons c r ih =>
    have hc := h c (by simp)
    simp only [strSafeGo, hc.1, hc.2, if_false]
    exact ih (fun x hx => h x (by simp [hx]))

theorem strSafeGo_append (a b : List Nat) (hb : strSafe b = true) (esc : Bool)
    (h : strSafeGo esc a = true) : strSafeGo esc (a ++ b) = true := by
  fun_induction strSafeGo esc a with
  | case1 esc =>
    cases esc with
    | true => cases h
    | false => exact hb
  | case2 c r ih => exact ih h
  | case3 r ih => exact ih h
  | case4 r _ => cases h
  | case5 c r h92 h34 ih => simpa only [List.cons_append, strSafeGo, h92, h34, if_false] using ih h

/-- the tokens completed inside a piece of text and the state after it -/
def lexScan : LexSt → List Nat → Option (List DTok × LexSt)
  | st, [] => some ([], st)
  | st, c :: r =>
    match lexStep st c with
    | none => none
    | some (o, st') =>
      match lexScan st' r with
      | none => none
      | some (ts, st'') => some (o ++ ts, st'')

theorem lexRun_eq (a : List Nat) (st : LexSt) (out : List DTok) :
    lexRun st out a =
      match lexScan st a with
      | none => none
      | some (ts, st') =>
        match lexFinish st' with
        | some l => some (out.reverse ++ ts ++ l)
        | none => none := by
  fun_induction lexScan st a generalizing out with
  | case1 st => simp only [lexRun, List.append_nil]; cases lexFinish st <;> rfl
  | case2 st c r hs => simp only [lexRun, hs]
  | case3 st c r o st' hs hr ih => simp only [lexRun, hs, ih, hr]
  | case4 st c r o st' hs ts st'' hr ih =>
    simp only [lexRun, hs, ih, hr, List.reverse_append, List.reverse_reverse, List.append_assoc]

def Lexes (st : LexSt) (a : List Nat) (ts : List DTok) (st' : LexSt) : Prop :=
  lexScan st a = some (ts, st')

theorem Lexes.append {st st1 st2 : LexSt} {a b : List Nat} {ta tb : List DTok}
    (ha : Lexes st a ta st1) (hb : Lexes st1 b tb st2) : Lexes st (a ++ b) (ta ++ tb) st2 := by
  unfold Lexes at *
  fun_induction lexScan st a generalizing ta with
  | case1 st => cases ha; exact hb
  | case2 st c r hs => cases ha
  | case3 st c r o st' hs hr ih => cases ha
  | case4 st c r o st' hs ts st'' hr ih =>
    cases ha
    simp only [List.cons_append, lexScan, hs, ih hr, List.append_assoc]

/-- the constant pieces of the written text are lexed by evaluation -/
instance (st : LexSt) (a : List Nat) (ts : List DTok) (st' : LexSt) : Decidable (Lexes st a ts st') :=
  inferInstanceAs (Decidable (lexScan st a = some (ts, st')))

theorem lexDot_of_lexes {a : List Nat} {ts : List DTok} (h : Lexes .bol a ts .bol) :
    lexDot a = some ts := by
  rw [lexDot, lexRun_eq, show lexScan .bol a = some (ts, .bol) from h]
  exact congrArg some (List.append_nil ts)

/-- A quoted string is one token carrying its raw content: the flag of `strSafeGo` is the state of
    the lexer inside the string. -/
theorem lexScan_str (s : List Nat) (esc : Bool) (h : strSafeGo esc s = true) : ∀ acc : List Nat,
    lexScan (bif esc then .inEsc acc else .inStr acc) (s ++ [34]) =
      some ([.str (acc.reverse ++ s)], .top) := by
  fun_induction strSafeGo esc s with
  | case1 esc =>
    cases esc with
    | true => cases h
    | false => intro acc; simp [lexScan, lexStep]
  | case2 c r ih =>
    intro acc
    simp only [List.cons_append, lexScan, lexStep, cond_true]
    rw [show lexScan (.inStr (c :: acc)) (r ++ [34]) = _ from ih h (c :: acc)]; simp
  | case3 r ih =>
    intro acc
    simp only [List.cons_append, lexScan, lexStep, cond_false, if_true]
    rw [show lexScan (.inEsc (92 :: acc)) (r ++ [34]) = _ from ih h (92 :: acc)]; simp
  | case4 r _ => cases h
  | case5 c r h92 h34 ih =>
    intro acc
    simp only [List.cons_append, lexScan, lexStep, cond_false, h92, h34, if_false]
    rw [show lexScan (.inStr (c :: acc)) (r ++ [34]) = _ from ih h (c :: acc)]; simp

theorem lexes_quoted {s : List Nat} (h : strSafe s = true) : Lexes .top (quoted s) [.str s] .top := by
  unfold Lexes quoted
  have : lexScan (.inStr []) (s ++ [34]) = _ := lexScan_str s false h []
  have h0 : lexStep .top 34 = some ([], .inStr []) := by decide
  simp only [lexScan, h0, this, List.nil_append]
  rfl

theorem lexes_quoted_plain {s : List Nat} (h : Plain s) : Lexes .top (quoted s) [.str s] .top :=
  lexes_quoted (strSafe_of_plain h)

theorem lexScan_idChars (ds : List Nat) (h : ∀ c ∈ ds, isIdChar c = true) : ∀ acc : List Nat,
    lexScan (.inId acc) ds = some ([], .inId (ds.reverse ++ acc)) := by
  induction ds with
  | nil => intro acc; rfl
  | cons c r ih =>
    intro acc
    have hc := h c (by simp)
    simp only [lexScan, lexStep, hc, if_true]
    rw [ih (fun x hx => h x (by simp [hx]))]
    simp

/-- `shape=circle, color=<colour>, penwidth=3, label=` -/
def styleToks (colour : List Nat) : List DTok :=
  [.id kwShape, .eq, .id kwCircle, .comma, .id kwColor, .eq, .id colour, .comma,
    .id kwPenwidth, .eq, .id kwThree, .comma, .id kwLabel, .eq]

def nodeAttrToks (n : DNode) : List DTok :=
  if n.kind = 1 then styleToks kwBlue ++ [.str (natDigits n.id)]
  else if n.kind = 2 then styleToks kwRed ++ [.str (natDigits n.id ++ [32, 84] ++ natDigits n.tid)]
  else [.id kwLabel, .eq, .str (natDigits n.id)]

def nodeToks (pre : List Nat) (n : DNode) : List DTok :=
  .str (pre ++ natDigits n.id) :: .lbrack :: (nodeAttrToks n ++ [.rbrack, .semi])

def edgeLabel (edgeText : Nat → List Nat) (e : DEdge) : List Nat :=
  edgeText e.cc ++ kwClassOpen ++ natDigits e.cc ++ [41]

def edgeToks (pre : List Nat) (edgeText : Nat → List Nat) (e : DEdge) : List DTok :=
  [.str (pre ++ natDigits e.src), .arrow, .str (pre ++ natDigits e.dst), .lbrack, .id kwLabel, .eq,
    .str (edgeLabel edgeText e), .rbrack, .semi]

def graphToks (pre : List Nat) (edgeText : Nat → List Nat) (g : DGraph) : List DTok :=
  g.nodes.flatMap (nodeToks pre) ++ g.edges.flatMap (edgeToks pre edgeText)

def clusterPre (c : DCluster) : List Nat := natDigits c.tid ++ [95]

def clusterToks (edgeText : Nat → List Nat) (k : Nat) (c : DCluster) : List DTok :=
  .id kwSubgraph :: .id (kwClusterPre ++ natDigits k) :: .lbrace ::
    .id kwLabel :: .eq :: .str (clusterLabelText c) :: .semi ::
    (graphToks (clusterPre c) edgeText c.g ++ [.rbrace])

def clustersToks (edgeText : Nat → List Nat) : Nat → List DCluster → List DTok
  | _, [] => []
  | k, c :: r => clusterToks edgeText k c ++ clustersToks edgeText (k + 1) r

/-- the tokens between the outer braces, and the closing brace -/
def docBodyToks (title : List Nat) (edgeText : Nat → List Nat) (d : DotDoc) : List DTok :=
  .id kwLabel :: .eq :: .str title :: .semi :: .id kwRankdir :: .eq :: .id kwLR :: .semi ::
    (graphToks [] edgeText d.main ++ (clustersToks edgeText 0 d.clusters ++ [.rbrace]))

def docToks (title : List Nat) (edgeText : Nat → List Nat) (d : DotDoc) : List DTok :=
  .id kwDigraph :: .lbrace :: docBodyToks title edgeText d

/-! ## Lexing the rendered text

Each writer function is a left-nested `++` of constant pieces, quoted strings and the text of its
parts. A chain of `Lexes.append` nested the same way has the text syntactically and the expected
tokens up to unfolding `++` on constant lists, so it is the proof term. (For the whole file,
`lexDot_renderDot`, whole constant lines are single pieces and both sides are re-associated: checking
many small pieces there costs more than the rewriting.) -/

theorem lexes_open : Lexes .top [32, 91] [.lbrack] .top := by decide
theorem lexes_close : Lexes .top [93, 59, 10] [.rbrack, .semi] .bol := by decide
theorem lexes_labelEq : Lexes .top txtLabelEq [.id kwLabel, .eq] .top := by decide

theorem lexes_nodeAttrs (n : DNode) : Lexes .top (renderNodeAttrs n) (nodeAttrToks n) .top := by
  unfold renderNodeAttrs nodeAttrToks
  by_cases h1 : n.kind = 1
  · simp only [h1, if_true]
    exact (by decide +kernel : Lexes .top (txtShapeColor ++ kwBlue ++ txtPenLabel)
      (styleToks kwBlue) .top).append (lexes_quoted_plain (plain_natDigits n.id))
  · by_cases h2 : n.kind = 2
    · simp only [h2, if_true]
      exact (by decide +kernel : Lexes .top (txtShapeColor ++ kwRed ++ txtPenLabel)
        (styleToks kwRed) .top).append
        (lexes_quoted_plain (((plain_natDigits _).append (by decide : Plain [32, 84])).append
          (plain_natDigits _)))
    · simp only [h1, h2, if_false]
      exact lexes_labelEq.append (lexes_quoted_plain (plain_natDigits n.id))

theorem lexes_node {ind pre : List Nat} (hind : Lexes .bol ind [] .top) (hpre : Plain pre) (n : DNode) :
    Lexes .bol (renderNode ind pre n) (nodeToks pre n) .bol :=
  ((((hind.append (lexes_quoted_plain (hpre.append (plain_natDigits n.id)))).append lexes_open).append
    (lexes_nodeAttrs n)).append lexes_close)

theorem strSafe_edgeLabel (edgeText : Nat → List Nat) (he : ∀ cc, strSafe (edgeText cc) = true) (e : DEdge) :
    strSafe (edgeLabel edgeText e) = true := by
  have hp : Plain (kwClassOpen ++ natDigits e.cc ++ [41]) :=
    ((by decide : Plain kwClassOpen).append (plain_natDigits _)).append (by decide : Plain [41])
  simpa only [edgeLabel, strSafe, List.append_assoc] using
    strSafeGo_append _ _ (strSafe_of_plain hp) false (he e.cc)

theorem lexes_edge {ind pre : List Nat} (hind : Lexes .bol ind [] .top) (hpre : Plain pre)
    (edgeText : Nat → List Nat) (he : ∀ cc, strSafe (edgeText cc) = true) (e : DEdge) :
    Lexes .bol (renderEdge ind pre edgeText e) (edgeToks pre edgeText e) .bol :=
  (((((((hind.append (lexes_quoted_plain (hpre.append (plain_natDigits e.src)))).append
    (by decide : Lexes .top [32, 45, 62, 32] [.arrow] .top)).append
    (lexes_quoted_plain (hpre.append (plain_natDigits e.dst)))).append lexes_open).append
    lexes_labelEq).append (lexes_quoted (strSafe_edgeLabel edgeText he e))).append lexes_close)

theorem lexes_nodes {ind pre : List Nat} (hind : Lexes .bol ind [] .top) (hpre : Plain pre) (ns : List DNode) :
    Lexes .bol (renderNodes ind pre ns) (ns.flatMap (nodeToks pre)) .bol := by
  induction ns with
  | nil => exact rfl
  | cons n r ih => exact (lexes_node hind hpre n).append ih

theorem lexes_edges {ind pre : List Nat} (hind : Lexes .bol ind [] .top) (hpre : Plain pre)
    (edgeText : Nat → List Nat) (he : ∀ cc, strSafe (edgeText cc) = true) (es : List DEdge) :
    Lexes .bol (renderEdges ind pre edgeText es) (es.flatMap (edgeToks pre edgeText)) .bol := by
  induction es with
  | nil => exact rfl
  | cons e r ih => exact (lexes_edge hind hpre edgeText he e).append ih

theorem lexes_graph {ind pre : List Nat} (hind : Lexes .bol ind [] .top) (hpre : Plain pre)
    (edgeText : Nat → List Nat) (he : ∀ cc, strSafe (edgeText cc) = true) (g : DGraph) :
    Lexes .bol (renderGraph ind pre edgeText g) (graphToks pre edgeText g) .bol :=
  (lexes_nodes hind hpre g.nodes).append (lexes_edges hind hpre edgeText he g.edges)

theorem plain_clusterLabelText (c : DCluster) : Plain (clusterLabelText c) := by
  unfold clusterLabelText
  refine (((by decide : Plain kwLaFor).append (plain_natDigits _)).append (by decide : Plain [40])).append ?_
  cases c.positive
  · exact (by decide : Plain kwNeg)
  · exact (by decide : Plain kwPos)

theorem lexes_cluster (edgeText : Nat → List Nat) (he : ∀ cc, strSafe (edgeText cc) = true)
    (k : Nat) (c : DCluster) :
    Lexes .bol (renderCluster edgeText k c) (clusterToks edgeText k c) .bol := by
  -- the digits of `k` continue the identifier `cluster_`, which the blank then ends
  have hk : Lexes (.inId kwClusterPre.reverse) (natDigits k) []
      (.inId ((natDigits k).reverse ++ kwClusterPre.reverse)) :=
    lexScan_idChars _ (fun x hx => by simp only [isIdChar, natDigits_digit k x hx, Bool.or_true]) _
  have hopen : Lexes (.inId ((natDigits k).reverse ++ kwClusterPre.reverse)) [32, 123, 10]
      [.id (kwClusterPre ++ natDigits k), .lbrace] .bol := by
    rw [← List.reverse_reverse (kwClusterPre ++ natDigits k), List.reverse_append (as := kwClusterPre)]
    exact rfl
  unfold renderCluster
  rw [List.append_assoc]
  exact ((((((((by decide +kernel : Lexes .bol (ind2 ++ kwSubgraph ++ [32] ++ kwClusterPre) [.id kwSubgraph]
      (.inId kwClusterPre.reverse)).append hk).append hopen).append
    (by decide : Lexes .bol ind4 [] .top)).append lexes_labelEq).append
    (lexes_quoted_plain (plain_clusterLabelText c))).append
    (by decide : Lexes .top [59, 10] [.semi] .bol)).append
    (lexes_graph (by decide) ((plain_natDigits _).append (by decide : Plain [95])) edgeText he c.g)).append
    (by decide : Lexes .bol (ind2 ++ [125, 10]) [.rbrace] .bol)

theorem lexes_clusters (edgeText : Nat → List Nat) (he : ∀ cc, strSafe (edgeText cc) = true)
    (cs : List DCluster) : ∀ k,
    Lexes .bol (renderClusters edgeText k cs) (clustersToks edgeText k cs) .bol := by
  induction cs with
  | nil => intro k; exact rfl
  | cons c r ih => intro k; exact (lexes_cluster edgeText he k c).append (ih (k + 1))

theorem lexDot_renderDot (title : List Nat) (edgeText : Nat → List Nat) (d : DotDoc)
    (ht : strSafe title = true) (he : ∀ cc, strSafe (edgeText cc) = true) :
    lexDot (renderDot title edgeText d) = some (docToks title edgeText d) := by
  apply lexDot_of_lexes
  have h := ((by decide +kernel : Lexes .bol (kwDigraph ++ [32, 123, 10] ++ ind2 ++ txtLabelEq)
      [.id kwDigraph, .lbrace, .id kwLabel, .eq] .top).append (lexes_quoted ht)).append
    ((by decide +kernel : Lexes .top ([59, 10] ++ ind2 ++ kwRankdir ++ [61] ++ kwLR ++ [59, 10])
      [.semi, .id kwRankdir, .eq, .id kwLR, .semi] .bol).append
    ((lexes_graph (by decide : Lexes .bol ind2 [] .top) (by decide : Plain []) edgeText he d.main).append
    ((lexes_clusters edgeText he d.clusters 0).append
    (by decide : Lexes .bol [125, 10] [.rbrace] .bol))))
  simp only [List.append_assoc] at h
  simp only [renderDot, List.append_assoc]
  exact h

def nodeAttrs (n : DNode) : List (List Nat × List Nat) :=
  if n.kind = 1 then
    [(kwShape, kwCircle), (kwColor, kwBlue), (kwPenwidth, kwThree), (kwLabel, natDigits n.id)]
  else if n.kind = 2 then
    [(kwShape, kwCircle), (kwColor, kwRed), (kwPenwidth, kwThree),
      (kwLabel, natDigits n.id ++ [32, 84] ++ natDigits n.tid)]
  else [(kwLabel, natDigits n.id)]

def nodeStmt (pre : List Nat) (n : DNode) : DStmt := .node (pre ++ natDigits n.id) (nodeAttrs n)

def edgeStmt (pre : List Nat) (edgeText : Nat → List Nat) (e : DEdge) : DStmt :=
  .edge (pre ++ natDigits e.src) (pre ++ natDigits e.dst) [(kwLabel, edgeLabel edgeText e)]

def graphStmts (pre : List Nat) (edgeText : Nat → List Nat) (g : DGraph) : List DStmt :=
  g.nodes.map (nodeStmt pre) ++ g.edges.map (edgeStmt pre edgeText)

def clusterStmt (edgeText : Nat → List Nat) (k : Nat) (c : DCluster) : DStmt :=
  .sub (kwClusterPre ++ natDigits k)
    (.attr kwLabel (clusterLabelText c) :: graphStmts (clusterPre c) edgeText c.g)

def clustersStmts (edgeText : Nat → List Nat) : Nat → List DCluster → List DStmt
  | _, [] => []
  | k, c :: r => clusterStmt edgeText k c :: clustersStmts edgeText (k + 1) r

def docStmts (title : List Nat) (edgeText : Nat → List Nat) (d : DotDoc) : List DStmt :=
  .attr kwLabel title :: .attr kwRankdir kwLR ::
    (graphStmts [] edgeText d.main ++ clustersStmts edgeText 0 d.clusters)

/-- `pStmts` reads `toks` as the statements `res.1`, a closing brace and the rest `res.2`, whenever
    it has more fuel than there are tokens (which is what `parseBody` gives it). -/
def ParsesTo (toks : List DTok) (res : List DStmt × List DTok) : Prop :=
  ∀ f, toks.length < f → pStmts f toks = some res

theorem ParsesTo.of_succ {toks : List DTok} {res : List DStmt × List DTok}
    (h : ∀ f, toks.length ≤ f → pStmts (f + 1) toks = some res) : ParsesTo toks res
  | f + 1, hf => h f (Nat.le_of_lt_succ hf)

/-- what parses does not begin with a `;`, so the parser drops none in front of it -/
theorem ParsesTo.dropSemi_eq {rest : List DTok} {res : List DStmt × List DTok} (h : ParsesTo rest res) :
    dropSemi rest = rest := by
  unfold dropSemi
  split
  · rename_i r
    cases (h (r.length + 2) (by simp) : (none : Option _) = some res)
  · rfl

/-- The tokens `hd` are the statements `sts`, whatever follows them in the block. Like `Lexes`,
    this composes along `++`. -/
structure ReadsAs (hd : List DTok) (sts : List DStmt) : Prop where
  before : ∀ {rest tail r}, ParsesTo rest (tail, r) → ParsesTo (hd ++ rest) (sts ++ tail, r)

theorem ReadsAs.append {a b : List DTok} {x y : List DStmt} (ha : ReadsAs a x) (hb : ReadsAs b y) :
    ReadsAs (a ++ b) (x ++ y) := by
  refine ⟨fun h => ?_⟩
  rw [List.append_assoc, List.append_assoc]
  exact ha.before (hb.before h)

theorem ReadsAs.flatMap {β : Type} {t : β → List DTok} {s : β → DStmt} (h : ∀ x, ReadsAs (t x) [s x]) :
    ∀ xs : List β, ReadsAs (xs.flatMap t) (xs.map s)
  | [] => ⟨id⟩
  | x :: xs => (h x).append (ReadsAs.flatMap h xs)

theorem ReadsAs.close {hd : List DTok} {sts : List DStmt} (h : ReadsAs hd sts) (r : List DTok) :
    ParsesTo (hd ++ .rbrace :: r) (sts, r) := by
  simpa only [List.append_nil] using h.before (rest := .rbrace :: r) (tail := []) (.of_succ fun _ _ => rfl)

theorem ReadsAs.one {hd : List DTok} {st : DStmt} (hpos : 0 < hd.length)
    (hstep : ∀ f rest, pStmts (f + 1) (hd ++ rest) =
      match pStmts f rest with
      | none => none
      | some (ss, r2) => some (st :: ss, r2)) : ReadsAs hd [st] := by
  refine ⟨fun {rest tail r} h => .of_succ fun f hf => ?_⟩
  rw [List.length_append] at hf
  rw [hstep, h f (by omega)]
  rfl

theorem ReadsAs.sub {hd body : List DTok} {name : List Nat} {ss : List DStmt} (hpos : 0 < hd.length)
    (hstep : ∀ f X, pStmts (f + 1) (hd ++ X) =
      match pStmts f X with
      | none => none
      | some (b, r2) =>
        match pStmts f (dropSemi r2) with
        | none => none
        | some (ss, r3) => some (.sub name b :: ss, r3))
    (hb : ReadsAs body ss) : ReadsAs (hd ++ (body ++ [.rbrace])) [.sub name ss] := by
  refine ⟨fun {rest tail r} h => .of_succ fun f hf => ?_⟩
  simp only [List.append_assoc, List.length_append, List.singleton_append, List.length_cons] at hf ⊢
  rw [hstep, hb.close rest f (by simp only [List.length_append, List.length_cons]; omega)]
  simp only [h.dropSemi_eq, h f (by omega)]

theorem readsAs_node (pre : List Nat) (n : DNode) : ReadsAs (nodeToks pre n) [nodeStmt pre n] := by
  refine .one (by simp [nodeToks]) fun f rest => ?_
  unfold nodeToks nodeAttrToks nodeStmt nodeAttrs
  by_cases h1 : n.kind = 1
  · simp only [h1, if_true]; rfl
  · by_cases h2 : n.kind = 2
    · simp only [h2, if_true]; rfl
    · simp only [h1, h2, if_false]; rfl

theorem readsAs_graph (pre : List Nat) (edgeText : Nat → List Nat) (g : DGraph) :
    ReadsAs (graphToks pre edgeText g) (graphStmts pre edgeText g) :=
  (ReadsAs.flatMap (readsAs_node pre) g.nodes).append
    (ReadsAs.flatMap (fun e => .one (by simp [edgeToks]) fun _ _ => rfl) g.edges)

theorem readsAs_label (v : List Nat) : ReadsAs [.id kwLabel, .eq, .str v, .semi] [.attr kwLabel v] :=
  .one (by simp) fun _ _ => rfl

/-- `cluster_<k>` is not a keyword: evaluation sees that from its first letter -/
theorem readsAs_cluster (edgeText : Nat → List Nat) (k : Nat) (c : DCluster) :
    ReadsAs (clusterToks edgeText k c) [clusterStmt edgeText k c] :=
  ReadsAs.sub (hd := [.id kwSubgraph, .id (kwClusterPre ++ natDigits k), .lbrace]) (by simp) (fun _ _ => rfl)
    ((readsAs_label (clusterLabelText c)).append (readsAs_graph (clusterPre c) edgeText c.g))

theorem readsAs_clusters (edgeText : Nat → List Nat) (cs : List DCluster) :
    ∀ k, ReadsAs (clustersToks edgeText k cs) (clustersStmts edgeText k cs) := by
  induction cs with
  | nil => intro k; exact ⟨id⟩
  | cons c cs ih => intro k; exact (readsAs_cluster edgeText k c).append (ih (k + 1))

theorem parsesTo_docBody (title : List Nat) (edgeText : Nat → List Nat) (d : DotDoc) :
    ParsesTo (docBodyToks title edgeText d) (docStmts title edgeText d, []) :=
  (readsAs_label title).before
    ((ReadsAs.one (hd := [.id kwRankdir, .eq, .id kwLR, .semi]) (by simp) fun _ _ => rfl).before
      ((readsAs_graph [] edgeText d.main).before ((readsAs_clusters edgeText d.clusters 0).close [])))

theorem parseToks_digraph (r : List DTok) :
    parseToks (.id kwDigraph :: .lbrace :: r) =
      match pStmts (r.length + 2) r with
      | some (ss, []) => some ⟨ss⟩
      | _ => none := rfl

theorem parseToks_docToks (title : List Nat) (edgeText : Nat → List Nat) (d : DotDoc) :
    parseToks (docToks title edgeText d) = some ⟨docStmts title edgeText d⟩ := by
  simp only [docToks, parseToks_digraph,
    parsesTo_docBody title edgeText d ((docBodyToks title edgeText d).length + 2) (by omega)]

theorem stripPrefix_append (p s : List Nat) : stripPrefix p (p ++ s) = some s := by
  induction p with
  | nil => cases s <;> rfl
  | cons c p ih => simp [stripPrefix, ih]

theorem idOf_name (pre : List Nat) (n : Nat) : idOf pre (pre ++ natDigits n) = some n := by
  simp only [idOf, stripPrefix_append, parseNat_natDigits]

/-- what the round trip needs of a node: it is accepting (kind 2), or the start node (kind 1,
    number 0), or a plain node (kind 0, not number 0); only accepting nodes carry a token type -/
def NodeOK (n : DNode) : Prop :=
  n.kind = 2 ∨ (n.kind = 1 ∧ n.id = 0 ∧ n.tid = 0) ∨ (n.kind = 0 ∧ n.id ≠ 0 ∧ n.tid = 0)

theorem stripPrefix_short (a b : List Nat) (hb : b ≠ []) : stripPrefix (a ++ b) a = none := by
  induction a with
  | nil =>
    cases b with
    | nil => exact absurd rfl hb
    | cons x b => rfl
  | cons c a ih => simp [stripPrefix, ih]

theorem acceptingTid_plain (id : Nat) : acceptingTid id (natDigits id) = none := by
  simp [acceptingTid, stripPrefix_short]

theorem acceptingTid_accepting (id tid : Nat) :
    acceptingTid id (natDigits id ++ [32, 84] ++ natDigits tid) = some tid := by
  simp only [acceptingTid, stripPrefix_append, parseNat_natDigits]

theorem decodeNode_nodeStmt (pre : List Nat) (n : DNode) (h : NodeOK n) :
    decodeNode pre (pre ++ natDigits n.id) (nodeAttrs n) = some n := by
  obtain ⟨id, kind, tid⟩ := n
  unfold decodeNode nodeAttrs
  simp only [idOf_name]
  rcases h with h | ⟨h1, h2, h3⟩ | ⟨h1, h2, h3⟩ <;> simp only at *
  · subst h
    have hl : lookupAttr kwLabel [(kwShape, kwCircle), (kwColor, kwRed), (kwPenwidth, kwThree),
        (kwLabel, natDigits id ++ [32, 84] ++ natDigits tid)]
        = some (natDigits id ++ [32, 84] ++ natDigits tid) := rfl
    simp only [Nat.reduceEqDiff, if_false, if_true, hl, acceptingTid_accepting]
  · subst h1; subst h2; subst h3
    have hl : lookupAttr kwLabel [(kwShape, kwCircle), (kwColor, kwBlue), (kwPenwidth, kwThree),
        (kwLabel, natDigits 0)] = some (natDigits 0) := rfl
    simp only [if_true, hl, acceptingTid_plain]
  · subst h1; subst h3
    have hl : lookupAttr kwLabel [(kwLabel, natDigits id)] = some (natDigits id) := rfl
    simp only [Nat.reduceEqDiff, if_false, if_true, hl, acceptingTid_plain, h2]

theorem afterLast_none (p : Nat) (ps s : List Nat) (h : ∀ c ∈ s, c ≠ p) :
    afterLast (p :: ps) s = none := by
  induction s with
  | nil => rfl
  | cons c r ih =>
    have hc : p ≠ c := fun e => h c (by simp) e.symm
    simp only [afterLast, ih (fun x hx => h x (by simp [hx])), stripPrefix, hc, if_false]

theorem afterLast_hit (p : Nat) (ps a t : List Nat) (h : ∀ c ∈ ps ++ t, c ≠ p) :
    afterLast (p :: ps) (a ++ (p :: ps ++ t)) = some t := by
  induction a with
  | nil =>
    simp only [List.nil_append, List.cons_append, afterLast, afterLast_none p ps _ h, stripPrefix,
      if_true, stripPrefix_append]
  | cons c a ih => rw [List.cons_append, afterLast, ih]

theorem stripSuffixChar_append (c : Nat) (s : List Nat) : stripSuffixChar c (s ++ [c]) = some s := by
  simp [stripSuffixChar, List.reverse_append]

theorem edgeClass_edgeLabel (edgeText : Nat → List Nat) (e : DEdge) :
    edgeClass (edgeLabel edgeText e) = some e.cc := by
  have h32 : ∀ c ∈ [40, 67, 35] ++ (natDigits e.cc ++ [41]), c ≠ 32 :=
    List.forall_mem_append.2 ⟨by decide, List.forall_mem_append.2
      ⟨fun c h => by have := natDigits_range h; omega, by decide⟩⟩
  have : afterLast kwClassOpen (edgeText e.cc ++ (kwClassOpen ++ (natDigits e.cc ++ [41])))
      = some (natDigits e.cc ++ [41]) := afterLast_hit 32 [40, 67, 35] _ _ h32
  simp only [edgeClass, edgeLabel, List.append_assoc, this, stripSuffixChar_append, parseNat_natDigits]

theorem decodeEdge_edgeStmt (pre : List Nat) (edgeText : Nat → List Nat) (e : DEdge) :
    decodeEdge pre (pre ++ natDigits e.src) (pre ++ natDigits e.dst) [(kwLabel, edgeLabel edgeText e)]
      = some e := by
  simp [decodeEdge, lookupAttr, edgeClass_edgeLabel, idOf_name]

theorem startsWith_append (p s : List Nat) : startsWith p (p ++ s) = true := by
  induction p with
  | nil => rfl
  | cons c p ih => simp [startsWith, ih]

theorem isCluster_pre (ds : List Nat) : isCluster (kwClusterPre ++ ds) = true := rfl

/-- every statement contributes a list; one failure fails the whole -/
def collect {α : Type} (f : DStmt → Option (List α)) : List DStmt → Option (List α)
  | [] => some []
  | s :: r =>
    match f s, collect f r with
    | some a, some b => some (a ++ b)
    | _, _ => none

theorem decodeNodes_eq (pre : List Nat) (ss : List DStmt) :
    decodeNodes pre ss = collect (decodeNodesStmt pre) ss := by
  induction ss with
  | nil => simp only [decodeNodes, collect]
  | cons s r ih =>
    simp only [decodeNodes, collect, ih]
    cases decodeNodesStmt pre s <;> cases collect (decodeNodesStmt pre) r <;> rfl

theorem decodeEdges_eq (pre : List Nat) (ss : List DStmt) :
    decodeEdges pre ss = collect (decodeEdgesStmt pre) ss := by
  induction ss with
  | nil => simp only [decodeEdges, collect]
  | cons s r ih =>
    simp only [decodeEdges, collect, ih]
    cases decodeEdgesStmt pre s <;> cases collect (decodeEdgesStmt pre) r <;> rfl

theorem decodeClusters_eq (ss : List DStmt) : decodeClusters ss = collect decodeClustersStmt ss := by
  induction ss with
  | nil => simp only [decodeClusters, collect]
  | cons s r ih =>
    simp only [decodeClusters, collect, ih]
    cases decodeClustersStmt s <;> cases collect decodeClustersStmt r <;> rfl

theorem collect_append {α : Type} {f : DStmt → Option (List α)} {a b : List DStmt} {x y : List α}
    (ha : collect f a = some x) (hb : collect f b = some y) : collect f (a ++ b) = some (x ++ y) := by
  fun_induction collect f a generalizing x with
  | case1 => cases ha; exact hb
  | case2 s r u v hr hs ih =>
    cases ha
    simp only [List.cons_append, collect, hs, ih hr, List.append_assoc]
  | case3 s r hn ih => cases ha

theorem collect_map {β : Type} {f : DStmt → Option (List β)} (g : β → DStmt) (xs : List β)
    (h : ∀ x ∈ xs, f (g x) = some [x]) : collect f (xs.map g) = some xs := by
  induction xs with
  | nil => rfl
  | cons x r ih =>
    simp only [List.map_cons, collect, h x (by simp), ih (fun y hy => h y (by simp [hy])),
      List.singleton_append]

theorem collect_map_skip {α β : Type} {f : DStmt → Option (List α)} (g : β → DStmt) (xs : List β)
    (h : ∀ x, f (g x) = some []) : collect f (xs.map g) = some [] := by
  induction xs with
  | nil => rfl
  | cons x r ih => simp only [List.map_cons, collect, h, ih, List.append_nil]

theorem collect_clustersStmts {α : Type} {f : DStmt → Option (List α)} {edgeText : Nat → List Nat}
    (h : ∀ k c, f (clusterStmt edgeText k c) = some []) (cs : List DCluster) :
    ∀ k, collect f (clustersStmts edgeText k cs) = some [] := by
  induction cs with
  | nil => intro k; rfl
  | cons c cs ih => intro k; simp only [clustersStmts, collect, h, ih, List.append_nil]

def GraphOK (g : DGraph) : Prop := ∀ n ∈ g.nodes, NodeOK n

theorem decodeGraph_graphStmts (pre : List Nat) (edgeText : Nat → List Nat) (g : DGraph) (h : GraphOK g)
    (hd tail : List DStmt)
    (hn : collect (decodeNodesStmt pre) hd = some []) (he : collect (decodeEdgesStmt pre) hd = some [])
    (tn : collect (decodeNodesStmt pre) tail = some []) (te : collect (decodeEdgesStmt pre) tail = some []) :
    decodeGraph pre (hd ++ (graphStmts pre edgeText g ++ tail)) = some g := by
  have h1 := collect_append hn (collect_append (collect_append
    (collect_map (f := decodeNodesStmt pre) (nodeStmt pre) g.nodes
      (fun n hn => by simp only [nodeStmt, decodeNodesStmt, decodeNode_nodeStmt pre n (h n hn)]))
    (collect_map_skip (edgeStmt pre edgeText) g.edges fun _ => rfl)) tn)
  have h2 := collect_append he (collect_append (collect_append
    (collect_map_skip (f := decodeEdgesStmt pre) (nodeStmt pre) g.nodes fun _ => rfl)
    (collect_map (edgeStmt pre edgeText) g.edges
      (fun e _ => by simp only [edgeStmt, decodeEdgesStmt, decodeEdge_edgeStmt]))) te)
  simp only [decodeGraph, graphStmts, decodeNodes_eq, decodeEdges_eq, h1, h2, List.append_nil,
    List.nil_append]

theorem lastLabel_graphStmts (pre : List Nat) (edgeText : Nat → List Nat) (g : DGraph) (cur : List Nat) :
    lastLabel (graphStmts pre edgeText g) cur = cur := by
  unfold graphStmts
  have hE : ∀ es : List DEdge, lastLabel (es.map (edgeStmt pre edgeText)) cur = cur := by
    intro es
    induction es with
    | nil => rfl
    | cons e es ih => simpa [edgeStmt, lastLabel] using ih
  induction g.nodes with
  | nil => simpa using hE g.edges
  | cons n ns ih => simpa [nodeStmt, lastLabel] using ih

theorem splitOnce_append (c : Nat) (a b : List Nat) (h : ∀ x ∈ a, x ≠ c) :
    splitOnce c (a ++ c :: b) = some (a, b) := by
  induction a with
  | nil => simp [splitOnce]
  | cons x a ih =>
    have hx := h x (by simp)
    simp only [List.cons_append, splitOnce, hx, if_false, ih (fun y hy => h y (by simp [hy]))]

theorem clusterLabel_text (c : DCluster) : clusterLabel (clusterLabelText c) = some (c.tid, c.positive) := by
  have h40 : ∀ x ∈ natDigits c.tid, x ≠ 40 := by
    intro x hx
    have := natDigits_range hx
    omega
  unfold clusterLabel clusterLabelText
  simp only [List.append_assoc, stripPrefix_append, List.singleton_append, splitOnce_append 40 _ _ h40,
    parseNat_natDigits]
  cases c.positive
  · simp [kwPos, kwNeg]
  · simp

theorem decodeCluster_body (edgeText : Nat → List Nat) (c : DCluster) (h : GraphOK c.g) :
    decodeCluster (.attr kwLabel (clusterLabelText c) :: graphStmts (clusterPre c) edgeText c.g) = some c := by
  have hg := decodeGraph_graphStmts (clusterPre c) edgeText c.g h [.attr kwLabel (clusterLabelText c)] []
    rfl rfl rfl rfl
  simp only [List.append_nil, List.singleton_append] at hg
  simp only [decodeCluster, lastLabel, if_true, lastLabel_graphStmts, clusterLabel_text]
  rw [show natDigits c.tid ++ [95] = clusterPre c from rfl, hg]

theorem decodeClusters_clusters (edgeText : Nat → List Nat) (cs : List DCluster)
    (h : ∀ c ∈ cs, GraphOK c.g) : ∀ k, collect decodeClustersStmt (clustersStmts edgeText k cs) = some cs := by
  induction cs with
  | nil => intro k; rfl
  | cons c cs ih =>
    intro k
    simp only [clustersStmts, clusterStmt, collect, decodeClustersStmt, isCluster_pre, if_true,
      decodeCluster_body edgeText c (h c (by simp)), ih (fun x hx => h x (by simp [hx])),
      List.singleton_append]

def DocOK (d : DotDoc) : Prop := GraphOK d.main ∧ ∀ c ∈ d.clusters, GraphOK c.g

theorem decodeDot_docStmts (title : List Nat) (edgeText : Nat → List Nat) (d : DotDoc) (h : DocOK d) :
    decodeDot ⟨docStmts title edgeText d⟩ = some d := by
  have hg : decodeGraph [] (docStmts title edgeText d) = some d.main :=
    decodeGraph_graphStmts [] edgeText d.main h.1 [.attr kwLabel title, .attr kwRankdir kwLR]
      (clustersStmts edgeText 0 d.clusters) rfl rfl
      (collect_clustersStmts (fun _ _ => rfl) _ 0) (collect_clustersStmts (fun _ _ => rfl) _ 0)
  have hc : collect decodeClustersStmt (docStmts title edgeText d) = some d.clusters :=
    collect_append (a := [.attr kwLabel title, .attr kwRankdir kwLR]) (x := []) rfl
      (collect_append (collect_append (collect_map_skip (nodeStmt []) d.main.nodes fun _ => rfl)
        (collect_map_skip (edgeStmt [] edgeText) d.main.edges fun _ => rfl))
        (decodeClusters_clusters edgeText d.clusters h.2 0))
  simp only [decodeDot, hg, decodeClusters_eq, hc]

theorem nodeOK_of_nodesOKFrom : ∀ (ns : List DNode) (i : Nat), nodesOKFrom i ns = true → ∀ n ∈ ns, NodeOK n := by
  intro ns
  induction ns with
  | nil => intro i _ n hn; cases hn
  | cons m ns ih =>
    intro i h n hn
    simp only [nodesOKFrom, Bool.and_eq_true, Bool.or_eq_true, beq_iff_eq, bne_iff_ne] at h
    rw [List.mem_cons] at hn
    cases hn with
    | inr hm => exact ih (i + 1) h.2 n hm
    | inl hm =>
      subst hm
      obtain ⟨⟨⟨⟨⟨hid, hk⟩, h0⟩, h1⟩, ht⟩, -⟩ := h
      rcases hk with (k | k) | k
      · exact .inr (.inr ⟨k, hid ▸ h0.resolve_right (by rw [k]; decide), ht.resolve_left (by rw [k]; decide)⟩)
      · exact .inr (.inl ⟨k, hid.trans (h1.resolve_left (fun h => h k)), ht.resolve_left (by rw [k]; decide)⟩)
      · exact .inl k

theorem graphOK_of_textOK (g : DGraph) (h : g.textOK = true) : GraphOK g := by
  simp only [DGraph.textOK, Bool.and_eq_true] at h
  exact nodeOK_of_nodesOKFrom g.nodes 0 h.1

theorem docOK_of_textOK (d : DotDoc) (h : d.textOK = true) : DocOK d := by
  simp only [DotDoc.textOK, Bool.and_eq_true, List.all_eq_true] at h
  exact ⟨graphOK_of_textOK _ h.1, fun c hc => graphOK_of_textOK _ (h.2 c hc)⟩

/-- the written file is well-formed for `parseDot`, whatever the document: it parses as `docStmts` -/
theorem parseDot_renderDot_isSome (title : List Nat) (edgeText : Nat → List Nat) (d : DotDoc)
    (ht : strSafe title = true) (he : ∀ cc, strSafe (edgeText cc) = true) :
    parseDot (renderDot title edgeText d) = some ⟨docStmts title edgeText d⟩ := by
  simp only [parseDot, lexDot_renderDot title edgeText d ht he, parseToks_docToks]

theorem decodeDot_parseDot_renderDot_of_docOK (title : List Nat) (edgeText : Nat → List Nat) (d : DotDoc)
    (hd : DocOK d) (ht : strSafe title = true) (he : ∀ cc, strSafe (edgeText cc) = true) :
    (parseDot (renderDot title edgeText d)).bind decodeDot = some d := by
  rw [parseDot_renderDot_isSome title edgeText d ht he]
  exact decodeDot_docStmts title edgeText d hd

theorem decodeDot_parseDot_renderDot (title : List Nat) (edgeText : Nat → List Nat) (d : DotDoc)
    (hd : d.textOK = true) (ht : strSafe title = true) (he : ∀ cc, strSafe (edgeText cc) = true) :
    (parseDot (renderDot title edgeText d)).bind decodeDot = some d :=
  decodeDot_parseDot_renderDot_of_docOK title edgeText d (docOK_of_textOK d hd) ht he

/-- Only well-formed text is accepted (each line: the text, then its code points). -/
theorem parseDot_wellformed_only :
    -- the closing brace of the graph is missing: `digraph { "0" [label="0"];`
    parseDot [100, 105, 103, 114, 97, 112, 104, 32, 123, 32, 34, 48, 34, 32, 91, 108, 97, 98, 101, 108, 61, 34, 48, 34, 93, 59] = none ∧
    -- one closing brace too many: `digraph { } }`
    parseDot [100, 105, 103, 114, 97, 112, 104, 32, 123, 32, 125, 32, 125] = none ∧
    -- a subgraph is not closed: `digraph { subgraph cluster_0 { "0" [label="0"]; }`
    parseDot [100, 105, 103, 114, 97, 112, 104, 32, 123, 32, 115, 117, 98, 103, 114, 97, 112, 104, 32, 99, 108, 117, 115, 116, 101, 114, 95, 48, 32, 123, 32, 34, 48, 34, 32, 91, 108, 97, 98, 101, 108, 61, 34, 48, 34, 93, 59, 32, 125] = none ∧
    -- a block is not closed: `digraph { { "0" }`
    parseDot [100, 105, 103, 114, 97, 112, 104, 32, 123, 32, 123, 32, 34, 48, 34, 32, 125] = none ∧
    -- unterminated string: `digraph { "0; }`
    parseDot [100, 105, 103, 114, 97, 112, 104, 32, 123, 32, 34, 48, 59, 32, 125] = none ∧
    -- a backslash escapes the closing quote: `digraph { "0" [label="a\"]; }`
    parseDot [100, 105, 103, 114, 97, 112, 104, 32, 123, 32, 34, 48, 34, 32, 91, 108, 97, 98, 101, 108, 61, 34, 97, 92, 34, 93, 59, 32, 125] = none ∧
    -- an unescaped quote inside a label (the rest is an unterminated string): `digraph { "0" [label="a"b"]; }`
    parseDot [100, 105, 103, 114, 97, 112, 104, 32, 123, 32, 34, 48, 34, 32, 91, 108, 97, 98, 101, 108, 61, 34, 97, 34, 98, 34, 93, 59, 32, 125] = none ∧
    -- unterminated `/*` comment: `digraph { } /* end`
    parseDot [100, 105, 103, 114, 97, 112, 104, 32, 123, 32, 125, 32, 47, 42, 32, 101, 110, 100] = none ∧
    -- unterminated `/*` comment (`*` alone does not close it): `digraph { /* * / }`
    parseDot [100, 105, 103, 114, 97, 112, 104, 32, 123, 32, 47, 42, 32, 42, 32, 47, 32, 125] = none ∧
    -- `/` that does not start a comment: `digraph { / }`
    parseDot [100, 105, 103, 114, 97, 112, 104, 32, 123, 32, 47, 32, 125] = none ∧
    -- `#` that is not the first character of a line: `digraph { # x\n}`
    parseDot [100, 105, 103, 114, 97, 112, 104, 32, 123, 32, 35, 32, 120, 10, 125] = none ∧
    -- `digraph` missing: `{ "0" [label="0"]; }`
    parseDot [123, 32, 34, 48, 34, 32, 91, 108, 97, 98, 101, 108, 61, 34, 48, 34, 93, 59, 32, 125] = none ∧
    -- `digraph` missing (undirected graph): `graph { }`
    parseDot [103, 114, 97, 112, 104, 32, 123, 32, 125] = none ∧
    -- `strict` twice: `strict strict digraph { }`
    parseDot [115, 116, 114, 105, 99, 116, 32, 115, 116, 114, 105, 99, 116, 32, 100, 105, 103, 114, 97, 112, 104, 32, 123, 32, 125] = none ∧
    -- a keyword as graph ID: `digraph node { }`
    parseDot [100, 105, 103, 114, 97, 112, 104, 32, 110, 111, 100, 101, 32, 123, 32, 125] = none ∧
    -- two graph IDs: `digraph a b { }`
    parseDot [100, 105, 103, 114, 97, 112, 104, 32, 97, 32, 98, 32, 123, 32, 125] = none ∧
    -- two graphs in one file: `digraph { } digraph { }`
    parseDot [100, 105, 103, 114, 97, 112, 104, 32, 123, 32, 125, 32, 100, 105, 103, 114, 97, 112, 104, 32, 123, 32, 125] = none ∧
    -- text after the closing brace: `digraph { } x`
    parseDot [100, 105, 103, 114, 97, 112, 104, 32, 123, 32, 125, 32, 120] = none ∧
    -- `;` after the closing brace: `digraph { };`
    parseDot [100, 105, 103, 114, 97, 112, 104, 32, 123, 32, 125, 59] = none ∧
    -- missing `]`: `digraph { "0" [label="0"; }`
    parseDot [100, 105, 103, 114, 97, 112, 104, 32, 123, 32, 34, 48, 34, 32, 91, 108, 97, 98, 101, 108, 61, 34, 48, 34, 59, 32, 125] = none ∧
    -- `]` without `[`: `digraph { "0" label="0"]; }`
    parseDot [100, 105, 103, 114, 97, 112, 104, 32, 123, 32, 34, 48, 34, 32, 108, 97, 98, 101, 108, 61, 34, 48, 34, 93, 59, 32, 125] = none ∧
    -- one `]` too many: `digraph { "0" [label="0"]]; }`
    parseDot [100, 105, 103, 114, 97, 112, 104, 32, 123, 32, 34, 48, 34, 32, 91, 108, 97, 98, 101, 108, 61, 34, 48, 34, 93, 93, 59, 32, 125] = none ∧
    -- attribute without value `[a=]`: `digraph { "0" [a=]; }`
    parseDot [100, 105, 103, 114, 97, 112, 104, 32, 123, 32, 34, 48, 34, 32, 91, 97, 61, 93, 59, 32, 125] = none ∧
    -- attribute without name `[=b]`: `digraph { "0" [=b]; }`
    parseDot [100, 105, 103, 114, 97, 112, 104, 32, 123, 32, 34, 48, 34, 32, 91, 61, 98, 93, 59, 32, 125] = none ∧
    -- attribute without `=`: `digraph { "0" [a b]; }`
    parseDot [100, 105, 103, 114, 97, 112, 104, 32, 123, 32, 34, 48, 34, 32, 91, 97, 32, 98, 93, 59, 32, 125] = none ∧
    -- two separators in an attribute list: `digraph { "0" [a=b,,c=d]; }`
    parseDot [100, 105, 103, 114, 97, 112, 104, 32, 123, 32, 34, 48, 34, 32, 91, 97, 61, 98, 44, 44, 99, 61, 100, 93, 59, 32, 125] = none ∧
    -- an attribute list starting with a separator: `digraph { "0" [,a=b]; }`
    parseDot [100, 105, 103, 114, 97, 112, 104, 32, 123, 32, 34, 48, 34, 32, 91, 44, 97, 61, 98, 93, 59, 32, 125] = none ∧
    -- an edge without target `a -> ;`: `digraph { a -> ; }`
    parseDot [100, 105, 103, 114, 97, 112, 104, 32, 123, 32, 97, 32, 45, 62, 32, 59, 32, 125] = none ∧
    -- an edge without target at the end: `digraph { a -> }`
    parseDot [100, 105, 103, 114, 97, 112, 104, 32, 123, 32, 97, 32, 45, 62, 32, 125] = none ∧
    -- an edge without source: `digraph { -> a }`
    parseDot [100, 105, 103, 114, 97, 112, 104, 32, 123, 32, 45, 62, 32, 97, 32, 125] = none ∧
    -- `-` without `>`: `digraph { "0" - "1"; }`
    parseDot [100, 105, 103, 114, 97, 112, 104, 32, 123, 32, 34, 48, 34, 32, 45, 32, 34, 49, 34, 59, 32, 125] = none ∧
    -- the undirected edge operator: `digraph { a -- b }`
    parseDot [100, 105, 103, 114, 97, 112, 104, 32, 123, 32, 97, 32, 45, 45, 32, 98, 32, 125] = none ∧
    -- two `;` after a statement: `digraph { a;; }`
    parseDot [100, 105, 103, 114, 97, 112, 104, 32, 123, 32, 97, 59, 59, 32, 125] = none ∧
    -- `;` without a statement: `digraph { ; }`
    parseDot [100, 105, 103, 114, 97, 112, 104, 32, 123, 32, 59, 32, 125] = none ∧
    -- `subgraph` without a body: `digraph { subgraph s; }`
    parseDot [100, 105, 103, 114, 97, 112, 104, 32, 123, 32, 115, 117, 98, 103, 114, 97, 112, 104, 32, 115, 59, 32, 125] = none ∧
    -- a keyword as node name: `digraph { edge -> a }`
    parseDot [100, 105, 103, 114, 97, 112, 104, 32, 123, 32, 101, 100, 103, 101, 32, 45, 62, 32, 97, 32, 125] = none ∧
    -- a keyword as attribute statement `node = x`: `digraph { node = x }`
    parseDot [100, 105, 103, 114, 97, 112, 104, 32, 123, 32, 110, 111, 100, 101, 32, 61, 32, 120, 32, 125] = none ∧
    -- default attributes without a list: `digraph { node; }`
    parseDot [100, 105, 103, 114, 97, 112, 104, 32, 123, 32, 110, 111, 100, 101, 59, 32, 125] = none ∧
    -- a numeral with two dots: `digraph { a [w=1.2.3] }`
    parseDot [100, 105, 103, 114, 97, 112, 104, 32, 123, 32, 97, 32, 91, 119, 61, 49, 46, 50, 46, 51, 93, 32, 125] = none ∧
    -- a numeral running into a name: `digraph { a [w=3abc] }`
    parseDot [100, 105, 103, 114, 97, 112, 104, 32, 123, 32, 97, 32, 91, 119, 61, 51, 97, 98, 99, 93, 32, 125] = none ∧
    -- a lone `.`: `digraph { a [w=.] }`
    parseDot [100, 105, 103, 114, 97, 112, 104, 32, 123, 32, 97, 32, 91, 119, 61, 46, 93, 32, 125] = none ∧
    -- a dot inside a bare identifier: `digraph { a.b }`
    parseDot [100, 105, 103, 114, 97, 112, 104, 32, 123, 32, 97, 46, 98, 32, 125] = none ∧
    -- a port (not part of the subset): `digraph { a:p -> b }`
    parseDot [100, 105, 103, 114, 97, 112, 104, 32, 123, 32, 97, 58, 112, 32, 45, 62, 32, 98, 32, 125] = none ∧
    -- a character outside of the language: `digraph { a ? }`
    parseDot [100, 105, 103, 114, 97, 112, 104, 32, 123, 32, 97, 32, 63, 32, 125] = none := by
  decide +kernel

/-- Each text is accepted; where it also decodes, the numbers of main nodes, main edges and
    clusters are given. -/
theorem parseDot_accepts :
    -- the empty graph: `digraph { }`
    ((parseDot [100, 105, 103, 114, 97, 112, 104, 32, 123, 32, 125]).bind decodeDot).map
        (fun d => (d.main.nodes.length, d.main.edges.length, d.clusters.length)) = some (0, 0, 0) ∧
    -- `strict` and a graph ID: `strict digraph G { }`
    ((parseDot [115, 116, 114, 105, 99, 116, 32, 100, 105, 103, 114, 97, 112, 104, 32, 71, 32, 123, 32, 125]).bind decodeDot).map
        (fun d => (d.main.nodes.length, d.main.edges.length, d.clusters.length)) = some (0, 0, 0) ∧
    -- keywords in any case, a quoted graph ID: `STRICT DiGraph "my graph" { }`
    ((parseDot [83, 84, 82, 73, 67, 84, 32, 68, 105, 71, 114, 97, 112, 104, 32, 34, 109, 121, 32, 103, 114, 97, 112, 104, 34, 32, 123, 32, 125]).bind decodeDot).map
        (fun d => (d.main.nodes.length, d.main.edges.length, d.clusters.length)) = some (0, 0, 0) ∧
    -- a numeral as graph ID, a comment after the closing brace: `digraph 12 { } // done\n`
    ((parseDot [100, 105, 103, 114, 97, 112, 104, 32, 49, 50, 32, 123, 32, 125, 32, 47, 47, 32, 100, 111, 110, 101, 10]).bind decodeDot).map
        (fun d => (d.main.nodes.length, d.main.edges.length, d.clusters.length)) = some (0, 0, 0) ∧
    -- comments: `/* a\n b */ digraph { /** c **/ // d\n }`
    ((parseDot [47, 42, 32, 97, 10, 32, 98, 32, 42, 47, 32, 100, 105, 103, 114, 97, 112, 104, 32, 123, 32, 47, 42, 42, 32, 99, 32, 42, 42, 47, 32, 47, 47, 32, 100, 10, 32, 125]).bind decodeDot).map
        (fun d => (d.main.nodes.length, d.main.edges.length, d.clusters.length)) = some (0, 0, 0) ∧
    -- `#` lines: `# 1 "x.gv"\ndigraph {\n# 5\n}`
    ((parseDot [35, 32, 49, 32, 34, 120, 46, 103, 118, 34, 10, 100, 105, 103, 114, 97, 112, 104, 32, 123, 10, 35, 32, 53, 10, 125]).bind decodeDot).map
        (fun d => (d.main.nodes.length, d.main.edges.length, d.clusters.length)) = some (0, 0, 0) ∧
    -- no `;`, bare names and numerals as IDs, several attribute lists, all separators: `digraph { 0 [label=0] 1 [a=b c=d; e=f, ] [label="1 T3"][] 0 -> 1 [label="x (C#5)"] }`
    ((parseDot [100, 105, 103, 114, 97, 112, 104, 32, 123, 32, 48, 32, 91, 108, 97, 98, 101, 108, 61, 48, 93, 32, 49, 32, 91, 97, 61, 98, 32, 99, 61, 100, 59, 32, 101, 61, 102, 44, 32, 93, 32, 91, 108, 97, 98, 101, 108, 61, 34, 49, 32, 84, 51, 34, 93, 91, 93, 32, 48, 32, 45, 62, 32, 49, 32, 91, 108, 97, 98, 101, 108, 61, 34, 120, 32, 40, 67, 35, 53, 41, 34, 93, 32, 125]).bind decodeDot).map
        (fun d => (d.main.nodes.length, d.main.edges.length, d.clusters.length)) = some (2, 1, 0) ∧
    -- an edge chain is its edges, with the same attributes: `digraph { 0 [label=0] 1 [label=1] 0 -> 1 -> 0 [label="x (C#5)"] }`
    ((parseDot [100, 105, 103, 114, 97, 112, 104, 32, 123, 32, 48, 32, 91, 108, 97, 98, 101, 108, 61, 48, 93, 32, 49, 32, 91, 108, 97, 98, 101, 108, 61, 49, 93, 32, 48, 32, 45, 62, 32, 49, 32, 45, 62, 32, 48, 32, 91, 108, 97, 98, 101, 108, 61, 34, 120, 32, 40, 67, 35, 53, 41, 34, 93, 32, 125]).bind decodeDot).map
        (fun d => (d.main.nodes.length, d.main.edges.length, d.clusters.length)) = some (2, 2, 0) ∧
    -- numerals as values: `digraph { 0 [label=0, w=-1.5, x=.5, y=3., z=-.7] }`
    ((parseDot [100, 105, 103, 114, 97, 112, 104, 32, 123, 32, 48, 32, 91, 108, 97, 98, 101, 108, 61, 48, 44, 32, 119, 61, 45, 49, 46, 53, 44, 32, 120, 61, 46, 53, 44, 32, 121, 61, 51, 46, 44, 32, 122, 61, 45, 46, 55, 93, 32, 125]).bind decodeDot).map
        (fun d => (d.main.nodes.length, d.main.edges.length, d.clusters.length)) = some (1, 0, 0) ∧
    -- blocks and non-cluster subgraphs only group nodes of the enclosing graph; `;` after `}`: `digraph { subgraph { 0 [label=0]; } {1 [label=1]}; SubGraph s {2[label=2]} subgraph cluster_x { label="LA for T3(Neg)" "3_0" [label=0] } }`
    ((parseDot [100, 105, 103, 114, 97, 112, 104, 32, 123, 32, 115, 117, 98, 103, 114, 97, 112, 104, 32, 123, 32, 48, 32, 91, 108, 97, 98, 101, 108, 61, 48, 93, 59, 32, 125, 32, 123, 49, 32, 91, 108, 97, 98, 101, 108, 61, 49, 93, 125, 59, 32, 83, 117, 98, 71, 114, 97, 112, 104, 32, 115, 32, 123, 50, 91, 108, 97, 98, 101, 108, 61, 50, 93, 125, 32, 115, 117, 98, 103, 114, 97, 112, 104, 32, 99, 108, 117, 115, 116, 101, 114, 95, 120, 32, 123, 32, 108, 97, 98, 101, 108, 61, 34, 76, 65, 32, 102, 111, 114, 32, 84, 51, 40, 78, 101, 103, 41, 34, 32, 34, 51, 95, 48, 34, 32, 91, 108, 97, 98, 101, 108, 61, 48, 93, 32, 125, 32, 125]).bind decodeDot).map
        (fun d => (d.main.nodes.length, d.main.edges.length, d.clusters.length)) = some (3, 0, 1) ∧
    -- default attributes; the label of a cluster inside `graph [..]`: `digraph { node [shape=box] edge [a=b]; subgraph clusterA { graph [label="LA for T3(Neg)"] "3_0" [label=0] } }`
    ((parseDot [100, 105, 103, 114, 97, 112, 104, 32, 123, 32, 110, 111, 100, 101, 32, 91, 115, 104, 97, 112, 101, 61, 98, 111, 120, 93, 32, 101, 100, 103, 101, 32, 91, 97, 61, 98, 93, 59, 32, 115, 117, 98, 103, 114, 97, 112, 104, 32, 99, 108, 117, 115, 116, 101, 114, 65, 32, 123, 32, 103, 114, 97, 112, 104, 32, 91, 108, 97, 98, 101, 108, 61, 34, 76, 65, 32, 102, 111, 114, 32, 84, 51, 40, 78, 101, 103, 41, 34, 93, 32, 34, 51, 95, 48, 34, 32, 91, 108, 97, 98, 101, 108, 61, 48, 93, 32, 125, 32, 125]).bind decodeDot).map
        (fun d => (d.main.nodes.length, d.main.edges.length, d.clusters.length)) = some (0, 0, 1) ∧
    -- identifiers with code points from 0x80 on (well-formed, but not a picture of an automaton): `digraph { café_1 -> über }`
    ((parseDot [100, 105, 103, 114, 97, 112, 104, 32, 123, 32, 99, 97, 102, 233, 95, 49, 32, 45, 62, 32, 252, 98, 101, 114, 32, 125]).isSome = true ∧
      (parseDot [100, 105, 103, 114, 97, 112, 104, 32, 123, 32, 99, 97, 102, 233, 95, 49, 32, 45, 62, 32, 252, 98, 101, 114, 32, 125]).bind decodeDot = none) := by
  decide +kernel

/-- an edge chain `0 -> 1 -> 0 [label=..]` is the two edges, and the nodes of blocks and
    non-cluster subgraphs belong to the enclosing graph, in the order of the file -/
theorem decodeDot_chain_and_blocks :
    (parseDot [100, 105, 103, 114, 97, 112, 104, 32, 123, 32, 48, 32, 91, 108, 97, 98, 101, 108, 61, 48, 93, 32, 123, 32, 49, 32, 91, 108, 97, 98, 101, 108, 61, 34, 49, 32, 84, 52, 34, 93, 32, 125, 32, 48, 32, 45, 62, 32, 49, 32, 45, 62, 32, 48, 32, 91, 108, 97, 98, 101, 108, 61, 34, 120, 32, 40, 67, 35, 53, 41, 34, 93, 32, 125]).bind decodeDot
      = some ⟨⟨[⟨0, 1, 0⟩, ⟨1, 2, 4⟩], [⟨0, 1, 5⟩, ⟨1, 0, 5⟩]⟩, []⟩ := by
  decide +kernel

/-- ```
digraph {
  label="M: a|b...";
  rankdir=LR;
  "0" [shape=circle, color=blue, penwidth=3, label="0"];
  "1" [label="1"];
  "2" [shape=circle, color=red, penwidth=3, label="2 T7"];
  "3" [label="3"];
  "4" [shape=circle, color=red, penwidth=3, label="4 T12"];
  "0" -> "1" [label="a (C#0)"];
  "0" -> "3" [label="[a-z] (C#10)"];
  "1" -> "2" [label="\" (C#3)"];
  "3" -> "4" [label="\\ (C#2)"];
  "3" -> "3" [label="a (C#0)"];
  subgraph cluster_0 {
    label="LA for T7(Pos)";
    "7_0" [shape=circle, color=blue, penwidth=3, label="0"];
    "7_1" [shape=circle, color=red, penwidth=3, label="1 T0"];
    "7_0" -> "7_1" [label="a (C#0)"];
  }
}
``` -/
def exText : List Nat := [
    100, 105, 103, 114, 97, 112, 104, 32, 123, 10, 32, 32, 108, 97, 98, 101, 108, 61, 34, 77, 58,
    32, 97, 124, 98, 46, 46, 46, 34, 59, 10, 32, 32, 114, 97, 110, 107, 100, 105, 114, 61, 76, 82,
    59, 10, 32, 32, 34, 48, 34, 32, 91, 115, 104, 97, 112, 101, 61, 99, 105, 114, 99, 108, 101, 44,
    32, 99, 111, 108, 111, 114, 61, 98, 108, 117, 101, 44, 32, 112, 101, 110, 119, 105, 100, 116,
    104, 61, 51, 44, 32, 108, 97, 98, 101, 108, 61, 34, 48, 34, 93, 59, 10, 32, 32, 34, 49, 34, 32,
    91, 108, 97, 98, 101, 108, 61, 34, 49, 34, 93, 59, 10, 32, 32, 34, 50, 34, 32, 91, 115, 104,
    97, 112, 101, 61, 99, 105, 114, 99, 108, 101, 44, 32, 99, 111, 108, 111, 114, 61, 114, 101,
    100, 44, 32, 112, 101, 110, 119, 105, 100, 116, 104, 61, 51, 44, 32, 108, 97, 98, 101, 108, 61,
    34, 50, 32, 84, 55, 34, 93, 59, 10, 32, 32, 34, 51, 34, 32, 91, 108, 97, 98, 101, 108, 61, 34,
    51, 34, 93, 59, 10, 32, 32, 34, 52, 34, 32, 91, 115, 104, 97, 112, 101, 61, 99, 105, 114, 99,
    108, 101, 44, 32, 99, 111, 108, 111, 114, 61, 114, 101, 100, 44, 32, 112, 101, 110, 119, 105,
    100, 116, 104, 61, 51, 44, 32, 108, 97, 98, 101, 108, 61, 34, 52, 32, 84, 49, 50, 34, 93, 59,
    10, 32, 32, 34, 48, 34, 32, 45, 62, 32, 34, 49, 34, 32, 91, 108, 97, 98, 101, 108, 61, 34, 97,
    32, 40, 67, 35, 48, 41, 34, 93, 59, 10, 32, 32, 34, 48, 34, 32, 45, 62, 32, 34, 51, 34, 32, 91,
    108, 97, 98, 101, 108, 61, 34, 91, 97, 45, 122, 93, 32, 40, 67, 35, 49, 48, 41, 34, 93, 59, 10,
    32, 32, 34, 49, 34, 32, 45, 62, 32, 34, 50, 34, 32, 91, 108, 97, 98, 101, 108, 61, 34, 92, 34,
    32, 40, 67, 35, 51, 41, 34, 93, 59, 10, 32, 32, 34, 51, 34, 32, 45, 62, 32, 34, 52, 34, 32, 91,
    108, 97, 98, 101, 108, 61, 34, 92, 92, 32, 40, 67, 35, 50, 41, 34, 93, 59, 10, 32, 32, 34, 51,
    34, 32, 45, 62, 32, 34, 51, 34, 32, 91, 108, 97, 98, 101, 108, 61, 34, 97, 32, 40, 67, 35, 48,
    41, 34, 93, 59, 10, 32, 32, 115, 117, 98, 103, 114, 97, 112, 104, 32, 99, 108, 117, 115, 116,
    101, 114, 95, 48, 32, 123, 10, 32, 32, 32, 32, 108, 97, 98, 101, 108, 61, 34, 76, 65, 32, 102,
    111, 114, 32, 84, 55, 40, 80, 111, 115, 41, 34, 59, 10, 32, 32, 32, 32, 34, 55, 95, 48, 34, 32,
    91, 115, 104, 97, 112, 101, 61, 99, 105, 114, 99, 108, 101, 44, 32, 99, 111, 108, 111, 114, 61,
    98, 108, 117, 101, 44, 32, 112, 101, 110, 119, 105, 100, 116, 104, 61, 51, 44, 32, 108, 97, 98,
    101, 108, 61, 34, 48, 34, 93, 59, 10, 32, 32, 32, 32, 34, 55, 95, 49, 34, 32, 91, 115, 104, 97,
    112, 101, 61, 99, 105, 114, 99, 108, 101, 44, 32, 99, 111, 108, 111, 114, 61, 114, 101, 100,
    44, 32, 112, 101, 110, 119, 105, 100, 116, 104, 61, 51, 44, 32, 108, 97, 98, 101, 108, 61, 34,
    49, 32, 84, 48, 34, 93, 59, 10, 32, 32, 32, 32, 34, 55, 95, 48, 34, 32, 45, 62, 32, 34, 55, 95,
    49, 34, 32, 91, 108, 97, 98, 101, 108, 61, 34, 97, 32, 40, 67, 35, 48, 41, 34, 93, 59, 10, 32,
    32, 125, 10, 125, 10]

def exDoc : DotDoc :=
  { main := { nodes := [⟨0, 1, 0⟩, ⟨1, 0, 0⟩, ⟨2, 2, 7⟩, ⟨3, 0, 0⟩, ⟨4, 2, 12⟩],
              edges := [⟨0, 1, 0⟩, ⟨0, 3, 10⟩, ⟨1, 2, 3⟩, ⟨3, 4, 2⟩, ⟨3, 3, 0⟩] },
    clusters := [⟨7, true, { nodes := [⟨0, 1, 0⟩, ⟨1, 2, 0⟩], edges := [⟨0, 1, 0⟩] }⟩] }

/-- `M: a|b...` -/
def exTitle : List Nat := [77, 58, 32, 97, 124, 98, 46, 46, 46]

/-- the printed classes: 0 `a`, 2 `\\` (an escaped backslash), 3 `\"` (an escaped quote), 10 `[a-z]` -/
def exEdgeText (cc : Nat) : List Nat :=
  if cc = 0 then [97] else if cc = 2 then [92, 92] else if cc = 3 then [92, 34]
  else if cc = 10 then [91, 97, 45, 122, 93] else []

theorem exText_decodes : (parseDot exText).bind decodeDot = some exDoc := by decide +kernel

theorem exDoc_renders : renderDot exTitle exEdgeText exDoc = exText := by decide +kernel

example : exDoc.textOK = true ∧ strSafe exTitle = true := by decide

/-- the same document through the writer (by evaluation, independently of the theorem) -/
theorem exDoc_roundtrip : (parseDot (renderDot exTitle exEdgeText exDoc)).bind decodeDot = some exDoc := by
  rw [exDoc_renders]; exact exText_decodes

/-- the same as an instance of `decodeDot_parseDot_renderDot` -/
example : (parseDot (renderDot exTitle exEdgeText exDoc)).bind decodeDot = some exDoc :=
  decodeDot_parseDot_renderDot exTitle exEdgeText exDoc (by decide) (by decide) (by
    intro cc; unfold exEdgeText; split
    · decide
    · split
      · decide
      · split
        · decide
        · split <;> decide)

/-- `exText` restyled: other colours, `shape=doublecircle` on accepting nodes, an extra
    `fontname="Helvetica"` on the nodes, `fontsize=10;` graph statements.
```
digraph {
  label="M: a|b...";
  rankdir=LR;
  fontsize=10;
  "0" [shape=circle, color=green, penwidth=2, fontname="Helvetica", label="0"];
  "1" [fontname="Helvetica", label="1"];
  "2" [shape=doublecircle, color=black, fontname="Helvetica", label="2 T7"];
  "3" [label="3", fontname="Helvetica"];
  "4" [shape=doublecircle, color=black, fontname="Helvetica", label="4 T12"];
  "0" -> "1" [label="a (C#0)"];
  "0" -> "3" [label="[a-z] (C#10)"];
  "1" -> "2" [label="\" (C#3)"];
  "3" -> "4" [label="\\ (C#2)"];
  "3" -> "3" [label="a (C#0)"];
  subgraph cluster_0 {
    label="LA for T7(Pos)";
    fontsize=10;
    "7_0" [shape=circle, color=green, fontname="Helvetica", label="0"];
    "7_1" [shape=doublecircle, color=black, fontname="Helvetica", label="1 T0"];
    "7_0" -> "7_1" [label="a (C#0)"];
  }
}
``` -/
def exRestyledText : List Nat := [
    100, 105, 103, 114, 97, 112, 104, 32, 123, 10, 32, 32, 108, 97, 98, 101, 108, 61, 34, 77, 58,
    32, 97, 124, 98, 46, 46, 46, 34, 59, 10, 32, 32, 114, 97, 110, 107, 100, 105, 114, 61, 76, 82,
    59, 10, 32, 32, 102, 111, 110, 116, 115, 105, 122, 101, 61, 49, 48, 59, 10, 32, 32, 34, 48, 34,
    32, 91, 115, 104, 97, 112, 101, 61, 99, 105, 114, 99, 108, 101, 44, 32, 99, 111, 108, 111, 114,
    61, 103, 114, 101, 101, 110, 44, 32, 112, 101, 110, 119, 105, 100, 116, 104, 61, 50, 44, 32,
    102, 111, 110, 116, 110, 97, 109, 101, 61, 34, 72, 101, 108, 118, 101, 116, 105, 99, 97, 34,
    44, 32, 108, 97, 98, 101, 108, 61, 34, 48, 34, 93, 59, 10, 32, 32, 34, 49, 34, 32, 91, 102,
    111, 110, 116, 110, 97, 109, 101, 61, 34, 72, 101, 108, 118, 101, 116, 105, 99, 97, 34, 44, 32,
    108, 97, 98, 101, 108, 61, 34, 49, 34, 93, 59, 10, 32, 32, 34, 50, 34, 32, 91, 115, 104, 97,
    112, 101, 61, 100, 111, 117, 98, 108, 101, 99, 105, 114, 99, 108, 101, 44, 32, 99, 111, 108,
    111, 114, 61, 98, 108, 97, 99, 107, 44, 32, 102, 111, 110, 116, 110, 97, 109, 101, 61, 34, 72,
    101, 108, 118, 101, 116, 105, 99, 97, 34, 44, 32, 108, 97, 98, 101, 108, 61, 34, 50, 32, 84,
    55, 34, 93, 59, 10, 32, 32, 34, 51, 34, 32, 91, 108, 97, 98, 101, 108, 61, 34, 51, 34, 44, 32,
    102, 111, 110, 116, 110, 97, 109, 101, 61, 34, 72, 101, 108, 118, 101, 116, 105, 99, 97, 34,
    93, 59, 10, 32, 32, 34, 52, 34, 32, 91, 115, 104, 97, 112, 101, 61, 100, 111, 117, 98, 108,
    101, 99, 105, 114, 99, 108, 101, 44, 32, 99, 111, 108, 111, 114, 61, 98, 108, 97, 99, 107, 44,
    32, 102, 111, 110, 116, 110, 97, 109, 101, 61, 34, 72, 101, 108, 118, 101, 116, 105, 99, 97,
    34, 44, 32, 108, 97, 98, 101, 108, 61, 34, 52, 32, 84, 49, 50, 34, 93, 59, 10, 32, 32, 34, 48,
    34, 32, 45, 62, 32, 34, 49, 34, 32, 91, 108, 97, 98, 101, 108, 61, 34, 97, 32, 40, 67, 35, 48,
    41, 34, 93, 59, 10, 32, 32, 34, 48, 34, 32, 45, 62, 32, 34, 51, 34, 32, 91, 108, 97, 98, 101,
    108, 61, 34, 91, 97, 45, 122, 93, 32, 40, 67, 35, 49, 48, 41, 34, 93, 59, 10, 32, 32, 34, 49,
    34, 32, 45, 62, 32, 34, 50, 34, 32, 91, 108, 97, 98, 101, 108, 61, 34, 92, 34, 32, 40, 67, 35,
    51, 41, 34, 93, 59, 10, 32, 32, 34, 51, 34, 32, 45, 62, 32, 34, 52, 34, 32, 91, 108, 97, 98,
    101, 108, 61, 34, 92, 92, 32, 40, 67, 35, 50, 41, 34, 93, 59, 10, 32, 32, 34, 51, 34, 32, 45,
    62, 32, 34, 51, 34, 32, 91, 108, 97, 98, 101, 108, 61, 34, 97, 32, 40, 67, 35, 48, 41, 34, 93,
    59, 10, 32, 32, 115, 117, 98, 103, 114, 97, 112, 104, 32, 99, 108, 117, 115, 116, 101, 114, 95,
    48, 32, 123, 10, 32, 32, 32, 32, 108, 97, 98, 101, 108, 61, 34, 76, 65, 32, 102, 111, 114, 32,
    84, 55, 40, 80, 111, 115, 41, 34, 59, 10, 32, 32, 32, 32, 102, 111, 110, 116, 115, 105, 122,
    101, 61, 49, 48, 59, 10, 32, 32, 32, 32, 34, 55, 95, 48, 34, 32, 91, 115, 104, 97, 112, 101,
    61, 99, 105, 114, 99, 108, 101, 44, 32, 99, 111, 108, 111, 114, 61, 103, 114, 101, 101, 110,
    44, 32, 102, 111, 110, 116, 110, 97, 109, 101, 61, 34, 72, 101, 108, 118, 101, 116, 105, 99,
    97, 34, 44, 32, 108, 97, 98, 101, 108, 61, 34, 48, 34, 93, 59, 10, 32, 32, 32, 32, 34, 55, 95,
    49, 34, 32, 91, 115, 104, 97, 112, 101, 61, 100, 111, 117, 98, 108, 101, 99, 105, 114, 99, 108,
    101, 44, 32, 99, 111, 108, 111, 114, 61, 98, 108, 97, 99, 107, 44, 32, 102, 111, 110, 116, 110,
    97, 109, 101, 61, 34, 72, 101, 108, 118, 101, 116, 105, 99, 97, 34, 44, 32, 108, 97, 98, 101,
    108, 61, 34, 49, 32, 84, 48, 34, 93, 59, 10, 32, 32, 32, 32, 34, 55, 95, 48, 34, 32, 45, 62,
    32, 34, 55, 95, 49, 34, 32, 91, 108, 97, 98, 101, 108, 61, 34, 97, 32, 40, 67, 35, 48, 41, 34,
    93, 59, 10, 32, 32, 125, 10, 125, 10]

theorem exRestyled_decodes : (parseDot exRestyledText).bind decodeDot = some exDoc := by decide +kernel

/-- `exText` without any styling of single nodes, with default-attribute statements
    (`graph [..];`, `node [..];`, `edge [..];`), extra attributes on edges and in the cluster, and
    `label` not in last position.
```
digraph {
  graph [fontname="Helvetica"];
  node [shape=box, fontname="Helvetica"];
  edge [fontsize=8];
  label="M: a|b...";
  "0" [label="0"];
  "1" [label="1"];
  "2" [label="2 T7", color=red];
  "3" [label="3"];
  "4" [label="4 T12"];
  "0" -> "1" [color=grey, label="a (C#0)"];
  "0" -> "3" [label="[a-z] (C#10)", fontsize=8];
  "1" -> "2" [label="\" (C#3)"];
  "3" -> "4" [label="\\ (C#2)"];
  "3" -> "3" [label="a (C#0)"];
  subgraph cluster_0 {
    style=dashed;
    label="LA for T7(Pos)";
    node [shape=box];
    "7_0" [label="0"];
    "7_1" [label="1 T0"];
    "7_0" -> "7_1" [label="a (C#0)", fontsize=8];
  }
}
``` -/
def exDefaultsText : List Nat := [
    100, 105, 103, 114, 97, 112, 104, 32, 123, 10, 32, 32, 103, 114, 97, 112, 104, 32, 91, 102,
    111, 110, 116, 110, 97, 109, 101, 61, 34, 72, 101, 108, 118, 101, 116, 105, 99, 97, 34, 93, 59,
    10, 32, 32, 110, 111, 100, 101, 32, 91, 115, 104, 97, 112, 101, 61, 98, 111, 120, 44, 32, 102,
    111, 110, 116, 110, 97, 109, 101, 61, 34, 72, 101, 108, 118, 101, 116, 105, 99, 97, 34, 93, 59,
    10, 32, 32, 101, 100, 103, 101, 32, 91, 102, 111, 110, 116, 115, 105, 122, 101, 61, 56, 93, 59,
    10, 32, 32, 108, 97, 98, 101, 108, 61, 34, 77, 58, 32, 97, 124, 98, 46, 46, 46, 34, 59, 10, 32,
    32, 34, 48, 34, 32, 91, 108, 97, 98, 101, 108, 61, 34, 48, 34, 93, 59, 10, 32, 32, 34, 49, 34,
    32, 91, 108, 97, 98, 101, 108, 61, 34, 49, 34, 93, 59, 10, 32, 32, 34, 50, 34, 32, 91, 108, 97,
    98, 101, 108, 61, 34, 50, 32, 84, 55, 34, 44, 32, 99, 111, 108, 111, 114, 61, 114, 101, 100,
    93, 59, 10, 32, 32, 34, 51, 34, 32, 91, 108, 97, 98, 101, 108, 61, 34, 51, 34, 93, 59, 10, 32,
    32, 34, 52, 34, 32, 91, 108, 97, 98, 101, 108, 61, 34, 52, 32, 84, 49, 50, 34, 93, 59, 10, 32,
    32, 34, 48, 34, 32, 45, 62, 32, 34, 49, 34, 32, 91, 99, 111, 108, 111, 114, 61, 103, 114, 101,
    121, 44, 32, 108, 97, 98, 101, 108, 61, 34, 97, 32, 40, 67, 35, 48, 41, 34, 93, 59, 10, 32, 32,
    34, 48, 34, 32, 45, 62, 32, 34, 51, 34, 32, 91, 108, 97, 98, 101, 108, 61, 34, 91, 97, 45, 122,
    93, 32, 40, 67, 35, 49, 48, 41, 34, 44, 32, 102, 111, 110, 116, 115, 105, 122, 101, 61, 56, 93,
    59, 10, 32, 32, 34, 49, 34, 32, 45, 62, 32, 34, 50, 34, 32, 91, 108, 97, 98, 101, 108, 61, 34,
    92, 34, 32, 40, 67, 35, 51, 41, 34, 93, 59, 10, 32, 32, 34, 51, 34, 32, 45, 62, 32, 34, 52, 34,
    32, 91, 108, 97, 98, 101, 108, 61, 34, 92, 92, 32, 40, 67, 35, 50, 41, 34, 93, 59, 10, 32, 32,
    34, 51, 34, 32, 45, 62, 32, 34, 51, 34, 32, 91, 108, 97, 98, 101, 108, 61, 34, 97, 32, 40, 67,
    35, 48, 41, 34, 93, 59, 10, 32, 32, 115, 117, 98, 103, 114, 97, 112, 104, 32, 99, 108, 117,
    115, 116, 101, 114, 95, 48, 32, 123, 10, 32, 32, 32, 32, 115, 116, 121, 108, 101, 61, 100, 97,
    115, 104, 101, 100, 59, 10, 32, 32, 32, 32, 108, 97, 98, 101, 108, 61, 34, 76, 65, 32, 102,
    111, 114, 32, 84, 55, 40, 80, 111, 115, 41, 34, 59, 10, 32, 32, 32, 32, 110, 111, 100, 101, 32,
    91, 115, 104, 97, 112, 101, 61, 98, 111, 120, 93, 59, 10, 32, 32, 32, 32, 34, 55, 95, 48, 34,
    32, 91, 108, 97, 98, 101, 108, 61, 34, 48, 34, 93, 59, 10, 32, 32, 32, 32, 34, 55, 95, 49, 34,
    32, 91, 108, 97, 98, 101, 108, 61, 34, 49, 32, 84, 48, 34, 93, 59, 10, 32, 32, 32, 32, 34, 55,
    95, 48, 34, 32, 45, 62, 32, 34, 55, 95, 49, 34, 32, 91, 108, 97, 98, 101, 108, 61, 34, 97, 32,
    40, 67, 35, 48, 41, 34, 44, 32, 102, 111, 110, 116, 115, 105, 122, 101, 61, 56, 93, 59, 10, 32,
    32, 125, 10, 125, 10]

theorem exDefaults_decodes : (parseDot exDefaultsText).bind decodeDot = some exDoc := by decide +kernel

/-- The same document as another DOT writer would put it: a leading `/* ... */` comment over two
    lines, `digraph scnr_compiled_automaton {`, tabs for indentation, `graph [rankdir = LR];`,
    blanks around every `=`, `// ...` comment lines, every node statement directly followed by its
    outgoing edges, no semicolon after some statements, the cluster named
    `cluster_lookahead_7` and placed before the main nodes.
```
/* header: compiled automaton of mode M
   (written by another DOT writer) */
digraph scnr_compiled_automaton {
	graph [rankdir = LR];
	label = "M: a|b...";
	subgraph cluster_lookahead_7 {
		label = "LA for T7(Pos)"
		// 2 states
		"7_0" [shape = circle, color = blue, penwidth = 3, label = "0"];
		"7_0" -> "7_1" [label = "a (C#0)"];
		"7_1" [shape = circle, color = red, penwidth = 3, label = "1 T0"];
	}
	// 5 states
	"0" [shape = circle, color = blue, penwidth = 3, label = "0"];
	"0" -> "1" [label = "a (C#0)"];
	"0" -> "3" [label = "[a-z] (C#10)"]
	"1" [label = "1"]
	"1" -> "2" [label = "\" (C#3)"];
	"2" [shape = circle, color = red, penwidth = 3, label = "2 T7"];
	"3" [label = "3"];
	"3" -> "4" [label = "\\ (C#2)"]
	"3" -> "3" [label = "a (C#0)"];
	"4" [shape = circle, color = red, penwidth = 3, label = "4 T12"]
}
``` -/
def exRewrittenText : List Nat := [
    47, 42, 32, 104, 101, 97, 100, 101, 114, 58, 32, 99, 111, 109, 112, 105, 108, 101, 100, 32, 97,
    117, 116, 111, 109, 97, 116, 111, 110, 32, 111, 102, 32, 109, 111, 100, 101, 32, 77, 10, 32,
    32, 32, 40, 119, 114, 105, 116, 116, 101, 110, 32, 98, 121, 32, 97, 110, 111, 116, 104, 101,
    114, 32, 68, 79, 84, 32, 119, 114, 105, 116, 101, 114, 41, 32, 42, 47, 10, 100, 105, 103, 114,
    97, 112, 104, 32, 115, 99, 110, 114, 95, 99, 111, 109, 112, 105, 108, 101, 100, 95, 97, 117,
    116, 111, 109, 97, 116, 111, 110, 32, 123, 10, 9, 103, 114, 97, 112, 104, 32, 91, 114, 97, 110,
    107, 100, 105, 114, 32, 61, 32, 76, 82, 93, 59, 10, 9, 108, 97, 98, 101, 108, 32, 61, 32, 34,
    77, 58, 32, 97, 124, 98, 46, 46, 46, 34, 59, 10, 9, 115, 117, 98, 103, 114, 97, 112, 104, 32,
    99, 108, 117, 115, 116, 101, 114, 95, 108, 111, 111, 107, 97, 104, 101, 97, 100, 95, 55, 32,
    123, 10, 9, 9, 108, 97, 98, 101, 108, 32, 61, 32, 34, 76, 65, 32, 102, 111, 114, 32, 84, 55,
    40, 80, 111, 115, 41, 34, 10, 9, 9, 47, 47, 32, 50, 32, 115, 116, 97, 116, 101, 115, 10, 9, 9,
    34, 55, 95, 48, 34, 32, 91, 115, 104, 97, 112, 101, 32, 61, 32, 99, 105, 114, 99, 108, 101, 44,
    32, 99, 111, 108, 111, 114, 32, 61, 32, 98, 108, 117, 101, 44, 32, 112, 101, 110, 119, 105,
    100, 116, 104, 32, 61, 32, 51, 44, 32, 108, 97, 98, 101, 108, 32, 61, 32, 34, 48, 34, 93, 59,
    10, 9, 9, 34, 55, 95, 48, 34, 32, 45, 62, 32, 34, 55, 95, 49, 34, 32, 91, 108, 97, 98, 101,
    108, 32, 61, 32, 34, 97, 32, 40, 67, 35, 48, 41, 34, 93, 59, 10, 9, 9, 34, 55, 95, 49, 34, 32,
    91, 115, 104, 97, 112, 101, 32, 61, 32, 99, 105, 114, 99, 108, 101, 44, 32, 99, 111, 108, 111,
    114, 32, 61, 32, 114, 101, 100, 44, 32, 112, 101, 110, 119, 105, 100, 116, 104, 32, 61, 32, 51,
    44, 32, 108, 97, 98, 101, 108, 32, 61, 32, 34, 49, 32, 84, 48, 34, 93, 59, 10, 9, 125, 10, 9,
    47, 47, 32, 53, 32, 115, 116, 97, 116, 101, 115, 10, 9, 34, 48, 34, 32, 91, 115, 104, 97, 112,
    101, 32, 61, 32, 99, 105, 114, 99, 108, 101, 44, 32, 99, 111, 108, 111, 114, 32, 61, 32, 98,
    108, 117, 101, 44, 32, 112, 101, 110, 119, 105, 100, 116, 104, 32, 61, 32, 51, 44, 32, 108, 97,
    98, 101, 108, 32, 61, 32, 34, 48, 34, 93, 59, 10, 9, 34, 48, 34, 32, 45, 62, 32, 34, 49, 34,
    32, 91, 108, 97, 98, 101, 108, 32, 61, 32, 34, 97, 32, 40, 67, 35, 48, 41, 34, 93, 59, 10, 9,
    34, 48, 34, 32, 45, 62, 32, 34, 51, 34, 32, 91, 108, 97, 98, 101, 108, 32, 61, 32, 34, 91, 97,
    45, 122, 93, 32, 40, 67, 35, 49, 48, 41, 34, 93, 10, 9, 34, 49, 34, 32, 91, 108, 97, 98, 101,
    108, 32, 61, 32, 34, 49, 34, 93, 10, 9, 34, 49, 34, 32, 45, 62, 32, 34, 50, 34, 32, 91, 108,
    97, 98, 101, 108, 32, 61, 32, 34, 92, 34, 32, 40, 67, 35, 51, 41, 34, 93, 59, 10, 9, 34, 50,
    34, 32, 91, 115, 104, 97, 112, 101, 32, 61, 32, 99, 105, 114, 99, 108, 101, 44, 32, 99, 111,
    108, 111, 114, 32, 61, 32, 114, 101, 100, 44, 32, 112, 101, 110, 119, 105, 100, 116, 104, 32,
    61, 32, 51, 44, 32, 108, 97, 98, 101, 108, 32, 61, 32, 34, 50, 32, 84, 55, 34, 93, 59, 10, 9,
    34, 51, 34, 32, 91, 108, 97, 98, 101, 108, 32, 61, 32, 34, 51, 34, 93, 59, 10, 9, 34, 51, 34,
    32, 45, 62, 32, 34, 52, 34, 32, 91, 108, 97, 98, 101, 108, 32, 61, 32, 34, 92, 92, 32, 40, 67,
    35, 50, 41, 34, 93, 10, 9, 34, 51, 34, 32, 45, 62, 32, 34, 51, 34, 32, 91, 108, 97, 98, 101,
    108, 32, 61, 32, 34, 97, 32, 40, 67, 35, 48, 41, 34, 93, 59, 10, 9, 34, 52, 34, 32, 91, 115,
    104, 97, 112, 101, 32, 61, 32, 99, 105, 114, 99, 108, 101, 44, 32, 99, 111, 108, 111, 114, 32,
    61, 32, 114, 101, 100, 44, 32, 112, 101, 110, 119, 105, 100, 116, 104, 32, 61, 32, 51, 44, 32,
    108, 97, 98, 101, 108, 32, 61, 32, 34, 52, 32, 84, 49, 50, 34, 93, 10, 125, 10]

theorem exRewritten_decodes : (parseDot exRewrittenText).bind decodeDot = some exDoc := by decide +kernel

/-- What is not cosmetic is still checked: each of these texts is well-formed (it parses) but does
    not decode. -/
theorem decodeDot_still_strict :
    -- a node label that disagrees with the node number: `digraph { "1" [label="2"]; }`
    ((parseDot [100, 105, 103, 114, 97, 112, 104, 32, 123, 32, 34, 49, 34, 32, 91, 108, 97, 98, 101, 108, 61, 34, 50, 34, 93, 59, 32, 125]).isSome = true ∧
      (parseDot [100, 105, 103, 114, 97, 112, 104, 32, 123, 32, 34, 49, 34, 32, 91, 108, 97, 98, 101, 108, 61, 34, 50, 34, 93, 59, 32, 125]).bind decodeDot = none) ∧
    -- an accepting label with another number in front: `digraph { "1" [label="2 T3"]; }`
    ((parseDot [100, 105, 103, 114, 97, 112, 104, 32, 123, 32, 34, 49, 34, 32, 91, 108, 97, 98, 101, 108, 61, 34, 50, 32, 84, 51, 34, 93, 59, 32, 125]).isSome = true ∧
      (parseDot [100, 105, 103, 114, 97, 112, 104, 32, 123, 32, 34, 49, 34, 32, 91, 108, 97, 98, 101, 108, 61, 34, 50, 32, 84, 51, 34, 93, 59, 32, 125]).bind decodeDot = none) ∧
    -- a node without label: `digraph { "0" [color=blue]; }`
    ((parseDot [100, 105, 103, 114, 97, 112, 104, 32, 123, 32, 34, 48, 34, 32, 91, 99, 111, 108, 111, 114, 61, 98, 108, 117, 101, 93, 59, 32, 125]).isSome = true ∧
      (parseDot [100, 105, 103, 114, 97, 112, 104, 32, 123, 32, 34, 48, 34, 32, 91, 99, 111, 108, 111, 114, 61, 98, 108, 117, 101, 93, 59, 32, 125]).bind decodeDot = none) ∧
    -- an accepting label without token type: `digraph { "1" [label="1 T"]; }`
    ((parseDot [100, 105, 103, 114, 97, 112, 104, 32, 123, 32, 34, 49, 34, 32, 91, 108, 97, 98, 101, 108, 61, 34, 49, 32, 84, 34, 93, 59, 32, 125]).isSome = true ∧
      (parseDot [100, 105, 103, 114, 97, 112, 104, 32, 123, 32, 34, 49, 34, 32, 91, 108, 97, 98, 101, 108, 61, 34, 49, 32, 84, 34, 93, 59, 32, 125]).bind decodeDot = none) ∧
    -- an edge without class id: `digraph { "0" [label="0"]; "0" -> "0" [label="a"]; }`
    ((parseDot [100, 105, 103, 114, 97, 112, 104, 32, 123, 32, 34, 48, 34, 32, 91, 108, 97, 98, 101, 108, 61, 34, 48, 34, 93, 59, 32, 34, 48, 34, 32, 45, 62, 32, 34, 48, 34, 32, 91, 108, 97, 98, 101, 108, 61, 34, 97, 34, 93, 59, 32, 125]).isSome = true ∧
      (parseDot [100, 105, 103, 114, 97, 112, 104, 32, 123, 32, 34, 48, 34, 32, 91, 108, 97, 98, 101, 108, 61, 34, 48, 34, 93, 59, 32, 34, 48, 34, 32, 45, 62, 32, 34, 48, 34, 32, 91, 108, 97, 98, 101, 108, 61, 34, 97, 34, 93, 59, 32, 125]).bind decodeDot = none) ∧
    -- an edge without label: `digraph { "0" [label="0"]; "0" -> "0" [color=red]; }`
    ((parseDot [100, 105, 103, 114, 97, 112, 104, 32, 123, 32, 34, 48, 34, 32, 91, 108, 97, 98, 101, 108, 61, 34, 48, 34, 93, 59, 32, 34, 48, 34, 32, 45, 62, 32, 34, 48, 34, 32, 91, 99, 111, 108, 111, 114, 61, 114, 101, 100, 93, 59, 32, 125]).isSome = true ∧
      (parseDot [100, 105, 103, 114, 97, 112, 104, 32, 123, 32, 34, 48, 34, 32, 91, 108, 97, 98, 101, 108, 61, 34, 48, 34, 93, 59, 32, 34, 48, 34, 32, 45, 62, 32, 34, 48, 34, 32, 91, 99, 111, 108, 111, 114, 61, 114, 101, 100, 93, 59, 32, 125]).bind decodeDot = none) ∧
    -- a node name that is not a number: `digraph { "n0" [label="0"]; }`
    ((parseDot [100, 105, 103, 114, 97, 112, 104, 32, 123, 32, 34, 110, 48, 34, 32, 91, 108, 97, 98, 101, 108, 61, 34, 48, 34, 93, 59, 32, 125]).isSome = true ∧
      (parseDot [100, 105, 103, 114, 97, 112, 104, 32, 123, 32, 34, 110, 48, 34, 32, 91, 108, 97, 98, 101, 108, 61, 34, 48, 34, 93, 59, 32, 125]).bind decodeDot = none) ∧
    -- a cluster without label: `digraph { subgraph cluster_0 { "7_0" [label="0"]; } }`
    ((parseDot [100, 105, 103, 114, 97, 112, 104, 32, 123, 32, 115, 117, 98, 103, 114, 97, 112, 104, 32, 99, 108, 117, 115, 116, 101, 114, 95, 48, 32, 123, 32, 34, 55, 95, 48, 34, 32, 91, 108, 97, 98, 101, 108, 61, 34, 48, 34, 93, 59, 32, 125, 32, 125]).isSome = true ∧
      (parseDot [100, 105, 103, 114, 97, 112, 104, 32, 123, 32, 115, 117, 98, 103, 114, 97, 112, 104, 32, 99, 108, 117, 115, 116, 101, 114, 95, 48, 32, 123, 32, 34, 55, 95, 48, 34, 32, 91, 108, 97, 98, 101, 108, 61, 34, 48, 34, 93, 59, 32, 125, 32, 125]).bind decodeDot = none) ∧
    -- a cluster whose nodes do not carry its token type: `digraph { subgraph cluster_0 { label="LA for T7(Pos)"; "8_0" [label="0"]; } }`
    ((parseDot [100, 105, 103, 114, 97, 112, 104, 32, 123, 32, 115, 117, 98, 103, 114, 97, 112, 104, 32, 99, 108, 117, 115, 116, 101, 114, 95, 48, 32, 123, 32, 108, 97, 98, 101, 108, 61, 34, 76, 65, 32, 102, 111, 114, 32, 84, 55, 40, 80, 111, 115, 41, 34, 59, 32, 34, 56, 95, 48, 34, 32, 91, 108, 97, 98, 101, 108, 61, 34, 48, 34, 93, 59, 32, 125, 32, 125]).isSome = true ∧
      (parseDot [100, 105, 103, 114, 97, 112, 104, 32, 123, 32, 115, 117, 98, 103, 114, 97, 112, 104, 32, 99, 108, 117, 115, 116, 101, 114, 95, 48, 32, 123, 32, 108, 97, 98, 101, 108, 61, 34, 76, 65, 32, 102, 111, 114, 32, 84, 55, 40, 80, 111, 115, 41, 34, 59, 32, 34, 56, 95, 48, 34, 32, 91, 108, 97, 98, 101, 108, 61, 34, 48, 34, 93, 59, 32, 125, 32, 125]).bind decodeDot = none) := by
  decide +kernel

/-! ## A file the crate wrote: `example1.dot` -/

/-- ```
digraph {
  label="Veryl_Embed_: \\{\\}[^{}]*....";
  rankdir=LR;
  "0" [shape=circle, color=blue, penwidth=3, label="0"];
  "1" [shape=circle, color=red, penwidth=3, label="1 T40"];
  "2" [shape=circle, color=red, penwidth=3, label="2 T44"];
  "3" [shape=circle, color=red, penwidth=3, label="3 T117"];
  "4" [shape=circle, color=red, penwidth=3, label="4 T118"];
  "0" -> "4" [label=". (C#4)"];
  "0" -> "1" [label="\\{ (C#42)"];
  "0" -> "2" [label="\\} (C#45)"];
  "0" -> "3" [label="[^{}] (C#78)"];
  "3" -> "3" [label="[^{}] (C#78)"];
}
``` -/
def example1Text : List Nat := [
    100, 105, 103, 114, 97, 112, 104, 32, 123, 10, 32, 32, 108, 97, 98, 101, 108, 61, 34, 86, 101,
    114, 121, 108, 95, 69, 109, 98, 101, 100, 95, 58, 32, 92, 92, 123, 92, 92, 125, 91, 94, 123,
    125, 93, 42, 46, 46, 46, 46, 34, 59, 10, 32, 32, 114, 97, 110, 107, 100, 105, 114, 61, 76, 82,
    59, 10, 32, 32, 34, 48, 34, 32, 91, 115, 104, 97, 112, 101, 61, 99, 105, 114, 99, 108, 101, 44,
    32, 99, 111, 108, 111, 114, 61, 98, 108, 117, 101, 44, 32, 112, 101, 110, 119, 105, 100, 116,
    104, 61, 51, 44, 32, 108, 97, 98, 101, 108, 61, 34, 48, 34, 93, 59, 10, 32, 32, 34, 49, 34, 32,
    91, 115, 104, 97, 112, 101, 61, 99, 105, 114, 99, 108, 101, 44, 32, 99, 111, 108, 111, 114, 61,
    114, 101, 100, 44, 32, 112, 101, 110, 119, 105, 100, 116, 104, 61, 51, 44, 32, 108, 97, 98,
    101, 108, 61, 34, 49, 32, 84, 52, 48, 34, 93, 59, 10, 32, 32, 34, 50, 34, 32, 91, 115, 104, 97,
    112, 101, 61, 99, 105, 114, 99, 108, 101, 44, 32, 99, 111, 108, 111, 114, 61, 114, 101, 100,
    44, 32, 112, 101, 110, 119, 105, 100, 116, 104, 61, 51, 44, 32, 108, 97, 98, 101, 108, 61, 34,
    50, 32, 84, 52, 52, 34, 93, 59, 10, 32, 32, 34, 51, 34, 32, 91, 115, 104, 97, 112, 101, 61, 99,
    105, 114, 99, 108, 101, 44, 32, 99, 111, 108, 111, 114, 61, 114, 101, 100, 44, 32, 112, 101,
    110, 119, 105, 100, 116, 104, 61, 51, 44, 32, 108, 97, 98, 101, 108, 61, 34, 51, 32, 84, 49,
    49, 55, 34, 93, 59, 10, 32, 32, 34, 52, 34, 32, 91, 115, 104, 97, 112, 101, 61, 99, 105, 114,
    99, 108, 101, 44, 32, 99, 111, 108, 111, 114, 61, 114, 101, 100, 44, 32, 112, 101, 110, 119,
    105, 100, 116, 104, 61, 51, 44, 32, 108, 97, 98, 101, 108, 61, 34, 52, 32, 84, 49, 49, 56, 34,
    93, 59, 10, 32, 32, 34, 48, 34, 32, 45, 62, 32, 34, 52, 34, 32, 91, 108, 97, 98, 101, 108, 61,
    34, 46, 32, 40, 67, 35, 52, 41, 34, 93, 59, 10, 32, 32, 34, 48, 34, 32, 45, 62, 32, 34, 49, 34,
    32, 91, 108, 97, 98, 101, 108, 61, 34, 92, 92, 123, 32, 40, 67, 35, 52, 50, 41, 34, 93, 59, 10,
    32, 32, 34, 48, 34, 32, 45, 62, 32, 34, 50, 34, 32, 91, 108, 97, 98, 101, 108, 61, 34, 92, 92,
    125, 32, 40, 67, 35, 52, 53, 41, 34, 93, 59, 10, 32, 32, 34, 48, 34, 32, 45, 62, 32, 34, 51,
    34, 32, 91, 108, 97, 98, 101, 108, 61, 34, 91, 94, 123, 125, 93, 32, 40, 67, 35, 55, 56, 41,
    34, 93, 59, 10, 32, 32, 34, 51, 34, 32, 45, 62, 32, 34, 51, 34, 32, 91, 108, 97, 98, 101, 108,
    61, 34, 91, 94, 123, 125, 93, 32, 40, 67, 35, 55, 56, 41, 34, 93, 59, 10, 125, 10]

def example1Doc : DotDoc :=
  { main := { nodes := [⟨0, 1, 0⟩, ⟨1, 2, 40⟩, ⟨2, 2, 44⟩, ⟨3, 2, 117⟩, ⟨4, 2, 118⟩],
              edges := [⟨0, 4, 4⟩, ⟨0, 1, 42⟩, ⟨0, 2, 45⟩, ⟨0, 3, 78⟩, ⟨3, 3, 78⟩] },
    clusters := [] }

theorem example1_decodes : (parseDot example1Text).bind decodeDot = some example1Doc := by decide +kernel

/-- `Veryl_Embed_: \\{\\}[^{}]*....` as written in the file (backslashes doubled) -/
def example1Title : List Nat := [86, 101, 114, 121, 108, 95, 69, 109, 98, 101, 100, 95, 58, 32, 92, 92, 123, 92, 92, 125, 91, 94, 123, 125, 93, 42, 46, 46, 46, 46]

/-- the printed classes of the file: 4 `.`, 42 `\\{`, 45 `\\}`, 78 `[^{}]` -/
def example1EdgeText (cc : Nat) : List Nat :=
  if cc = 4 then [46] else if cc = 42 then [92, 92, 123] else if cc = 45 then [92, 92, 125]
  else if cc = 78 then [91, 94, 123, 125, 93] else []

/-- `renderDot` reproduces the file character by character -/
theorem example1_renders : renderDot example1Title example1EdgeText example1Doc = example1Text := by decide +kernel

/-! ## The fuel of the parser is never the reason for a verdict

Every part of the parser returns a rest that is no longer than its input (`p*_len`). Each of these
goes by the cases of its function: the clauses in order, each `if`/`match` inside one split in two. -/

theorem consAttr_some {kv x as r} (h : consAttr kv x = some (as, r)) : ∃ as', x = some (as', r) := by
  cases x with
  | none => simp [consAttr] at h
  | some p => obtain ⟨a, b⟩ := p; simp [consAttr] at h; exact ⟨a, by rw [h.2]⟩

theorem pAList_len (sep : Bool) (ts : List DTok) : ∀ as r, pAList sep ts = some (as, r) → r.length < ts.length := by
  fun_induction pAList sep ts <;> intro as r h
  case case1 | case5 | case7 | case9 | case10 => cases h
  case case2 ih | case4 ih | case6 ih =>
    have := ih _ _ h
    simp only [List.length_cons]; omega
  case case3 => cases h; exact Nat.lt_succ_self _
  case case8 ih =>
    obtain ⟨as', h'⟩ := consAttr_some h
    have := ih _ _ h'
    simp only [List.length_cons]; omega

theorem pOptAttrs_len (ts : List DTok) (as r) : pOptAttrs ts = some (as, r) → r.length ≤ ts.length := by
  fun_cases pOptAttrs ts <;> intro h
  case case1 => exact Nat.le_of_lt (Nat.lt_succ_of_lt (pAList_len _ _ _ _ h))
  case case2 => cases h; exact Nat.le_refl _

theorem pTargets_len (ts : List DTok) : ∀ bs r, pTargets ts = some (bs, r) → r.length ≤ ts.length := by
  fun_induction pTargets ts <;> intro bs r h
  case case1 | case2 | case4 => cases h
  case case3 h' ih =>
    cases h
    have := ih _ _ h'
    simp only [List.length_cons]; omega
  case case5 => cases h; exact Nat.le_refl _

theorem pNamed_len (a : List Nat) (ts : List DTok) (sts r) :
    pNamed a ts = some (sts, r) → r.length ≤ ts.length := by
  fun_cases pNamed a ts <;> intro h
  case case1 => cases h; simp only [List.length_cons]; omega
  case case2 | case3 | case4 => cases h
  case case5 h2 _ h1 =>
    cases h
    exact Nat.le_trans (pOptAttrs_len _ _ _ h2) (pTargets_len _ _ _ h1)

theorem pDflt_len (w : List Nat) (ts : List DTok) (sts r) :
    pDflt w ts = some (sts, r) → r.length < ts.length := by
  fun_cases pDflt w ts <;> intro h
  case case1 h1 => cases h; exact Nat.lt_succ_of_lt (pAList_len _ _ _ _ h1)
  case case2 | case3 => cases h

theorem pSimple_len (t : DTok) (ts : List DTok) (sts r) :
    pSimple t ts = some (sts, r) → r.length ≤ ts.length := by
  fun_cases pSimple t ts <;> intro h
  case case1 => exact Nat.le_of_lt (pDflt_len _ _ _ _ h)
  case case2 | case5 => cases h
  case case3 | case4 => exact pNamed_len _ _ _ _ h

theorem pSubHead_len (ts : List DTok) (n r) : pSubHead ts = some (n, r) → r.length < ts.length := by
  fun_cases pSubHead ts <;> intro h
  case case1 => cases h; exact Nat.lt_succ_self _
  case case2 => cases h; simp only [List.length_cons]; omega
  case case3 | case4 => cases h

theorem dropSemi_len (ts : List DTok) : (dropSemi ts).length ≤ ts.length := by
  unfold dropSemi
  split
  · simp
  · omega

theorem pStmts_len : ∀ (f : Nat) (ts : List DTok) ss r, pStmts f ts = some (ss, r) → r.length < ts.length := by
  intro f
  induction f with
  | zero => intro ts ss r h; simp [pStmts] at h
  | succ f ih =>
    intro ts ss r h
    cases ts with
    | nil => simp [pStmts] at h
    | cons t rest =>
      -- what is parsed after the first statement starts no later than `rest`
      have tail : ∀ r1 ss' r', r1.length ≤ rest.length → pStmts f (dropSemi r1) = some (ss', r') →
          r'.length < (t :: rest).length := fun r1 ss' r' h1 h' =>
        Nat.lt_succ_of_lt (Nat.lt_of_lt_of_le (ih _ _ _ h') (Nat.le_trans (dropSemi_len r1) h1))
      simp only [pStmts] at h
      split at h
      · cases h; exact Nat.lt_succ_self _
      · split at h
        · cases h
        · rename_i body r2 h2
          split at h
          · cases h
          · rename_i ss' r3 h3
            cases h
            exact tail r2 _ _ (Nat.le_of_lt (ih _ _ _ h2)) h3
      · split at h
        · split at h
          · cases h
          · rename_i name r1 h1
            split at h
            · cases h
            · rename_i body r2 h2
              split at h
              · cases h
              · rename_i ss' r3 h3
                cases h
                exact tail r2 _ _ (Nat.le_of_lt (Nat.lt_trans (ih _ _ _ h2) (pSubHead_len _ _ _ h1))) h3
        · split at h
          · cases h
          · rename_i sts r1 h1
            split at h
            · cases h
            · rename_i ss' r2 h2
              cases h
              exact tail r1 _ _ (pSimple_len _ _ _ _ h1) h2

theorem pStmts_fuel : ∀ (f : Nat) (ts : List DTok), ts.length < f → ∀ f', f ≤ f' → pStmts f' ts = pStmts f ts := by
  intro f
  induction f with
  | zero => intro ts h; cases h
  | succ f ih =>
    intro ts hlen f' hf'
    cases f' with
    | zero => cases hf'
    | succ g =>
      have hg : f ≤ g := Nat.le_of_succ_le_succ hf'
      cases ts with
      | nil => rfl
      | cons t rest =>
        have hrest : rest.length < f := Nat.lt_of_succ_lt_succ hlen
        -- what is parsed after the first statement starts no later than `rest`
        have tail : ∀ r1 : List DTok, r1.length ≤ rest.length →
            pStmts g (dropSemi r1) = pStmts f (dropSemi r1) := fun r1 h1 =>
          ih (dropSemi r1) (Nat.lt_of_le_of_lt (Nat.le_trans (dropSemi_len r1) h1) hrest) g hg
        simp only [pStmts]
        split
        · rfl
        · rw [ih rest hrest g hg]
          cases h2 : pStmts f rest with
          | none => rfl
          | some q =>
            simp only
            rw [tail q.2 (Nat.le_of_lt (pStmts_len _ _ _ _ h2))]
        · split
          · cases h1 : pSubHead rest with
            | none => rfl
            | some p =>
              have l1 := pSubHead_len _ _ _ h1
              simp only
              rw [ih p.2 (Nat.lt_trans l1 hrest) g hg]
              cases h2 : pStmts f p.2 with
              | none => rfl
              | some q =>
                simp only
                rw [tail q.2 (Nat.le_of_lt (Nat.lt_trans (pStmts_len _ _ _ _ h2) l1))]
          · cases h1 : pSimple t rest with
            | none => rfl
            | some p =>
              simp only
              rw [tail p.2 (pSimple_len _ _ _ _ h1)]

/-- `parseBody` runs `pStmts` with `r.length + 2` units of fuel; any larger amount gives the same
    result, so the parser behaves like an unbounded recursive descent. -/
theorem parseToks_fuel (r : List DTok) (extra : Nat) :
    pStmts (r.length + 2 + extra) r = pStmts (r.length + 2) r :=
  pStmts_fuel (r.length + 2) r (by omega) _ (by omega)

theorem nodeOK_nodeOf (A : Dfa) (id : Nat) : NodeOK (nodeOf A id) := by
  unfold nodeOf
  split
  · simp [NodeOK]
  · split <;> simp [NodeOK, *]

theorem graphOK_dotGraph (A : Dfa) : GraphOK (dotGraph A) := by
  intro n hn
  simp only [dotGraph, List.mem_map] at hn
  obtain ⟨i, _, rfl⟩ := hn
  exact nodeOK_nodeOf A i

theorem docOK_dotDoc (M : ModeDfa) : DocOK (dotDoc M) := by
  refine ⟨graphOK_dotGraph _, ?_⟩
  intro c hc
  simp only [dotDoc, List.mem_map] at hc
  obtain ⟨p, _, rfl⟩ := hc
  exact graphOK_dotGraph _

/-- The file written for a compiled mode (the structured document of `Model/Dot.lean`, whose
    decoding `C18.picture_is_faithful` relates to the automata) reads back as that document — for
    every mode, without any assumption on the automata. -/
theorem decodeDot_parseDot_renderDot_dotDoc (title : List Nat) (edgeText : Nat → List Nat) (M : ModeDfa)
    (ht : strSafe title = true) (he : ∀ cc, strSafe (edgeText cc) = true) :
    (parseDot (renderDot title edgeText (dotDoc M))).bind decodeDot = some (dotDoc M) :=
  decodeDot_parseDot_renderDot_of_docOK title edgeText (dotDoc M) (docOK_dotDoc M) ht he

def cps (s : String) : List Nat := s.toList.map Char.toNat

/-- A string literal unifies with `String.ofList _` without being decoded; rewriting with this first
    spares the kernel the UTF-8 decoding of every literal. -/
theorem cps_ofList (l : List Char) : cps (String.ofList l) = l.map Char.toNat :=
  congrArg _ String.toList_ofList

theorem keywords_spelled :
    kwDigraph = cps "digraph" ∧ kwSubgraph = cps "subgraph" ∧ kwClusterPre = cps "cluster_" ∧
    kwLabel = cps "label" ∧ kwColor = cps "color" ∧ kwBlue = cps "blue" ∧ kwRed = cps "red" ∧
    kwShape = cps "shape" ∧ kwCircle = cps "circle" ∧ kwPenwidth = cps "penwidth" ∧ kwThree = cps "3" ∧
    kwRankdir = cps "rankdir" ∧ kwLR = cps "LR" ∧ kwClassOpen = cps " (C#" ∧ kwLaFor = cps "LA for T" ∧
    kwPos = cps "Pos)" ∧ kwNeg = cps "Neg)" ∧
    kwNode = cps "node" ∧ kwEdge = cps "edge" ∧ kwGraph = cps "graph" ∧
    kwStrict = cps "strict" ∧ kwCluster = cps "cluster" ∧
    txtShapeColor = cps "shape=circle, color=" ∧ txtPenLabel = cps ", penwidth=3, label=" ∧
    txtLabelEq = cps "label=" ∧ ind2 = cps "  " ∧ ind4 = cps "    " ∧
    exTitle = cps "M: a|b..." := by
  repeat rw [cps_ofList]
  decide +kernel

end Scnr

import ScnrVerif.Model.Minimize
import ScnrVerif.Proofs.Basics
/-!
# The quotient by a stable partition preserves the language (track A, minimizer)

The simulation argument is `acceptsTid_map`, for any map of states that carries transitions and
acceptance; the quotient is its instance for the map `findGroup` from a state to the index of its group.
-/
namespace Scnr

/-- `v` is stored under key `k` in an association list of value lists -/
def InMap {κ ν : Type} (M : List (κ × List ν)) (k : κ) (v : ν) : Prop := ∃ p ∈ M, k = p.1 ∧ v ∈ p.2

theorem inMap_nil {κ ν : Type} {k : κ} {v : ν} : InMap [] k v ↔ False := by
  simp [InMap]

theorem inMap_cons {κ ν : Type} {p : κ × List ν} {M : List (κ × List ν)} {k : κ} {v : ν} :
    InMap (p :: M) k v ↔ (k = p.1 ∧ v ∈ p.2) ∨ InMap M k v :=
  exists_mem_cons_iff

theorem inMap_insertCc (cc : Nat) (ts : List Nat) (M : List (Nat × List Nat)) (c t : Nat) :
    InMap (insertCc cc ts M) c t ↔ InMap M c t ∨ (c = cc ∧ t ∈ ts) := by
  induction M with
  | nil => simp only [insertCc, inMap_cons, inMap_nil, or_false, false_or]
  | cons p r ih =>
    obtain ⟨k, e⟩ := p
    simp only [insertCc]
    split
    · subst k
      rw [inMap_cons, inMap_cons, mem_foldl_pushNew, and_or_left, or_right_comm]
    · split
      · rw [inMap_cons, or_comm]
      · rw [inMap_cons, inMap_cons, ih, or_assoc]

theorem inMap_mergeInto (rep other : List (Nat × List Nat)) (c t : Nat) :
    InMap (mergeInto rep other) c t ↔ InMap rep c t ∨ InMap other c t := by
  unfold mergeInto
  induction other generalizing rep with
  | nil => simp only [List.foldl_nil, inMap_nil, or_false]
  | cons p r ih => rw [List.foldl_cons, ih, inMap_insertCc, inMap_cons, or_assoc]

theorem mem_foldl_pushNewPair (l acc : List (Nat × Nat)) (y : Nat × Nat) :
    y ∈ l.foldl pushNewPair acc ↔ y ∈ acc ∨ y ∈ l :=
  mem_foldl_step mem_push_if_new l acc y

theorem mem_flatMap_inMap {κ ν β : Type} (M : List (κ × List ν)) (f : ν → β) (k : κ) (b : β) :
    (k, b) ∈ M.flatMap (fun p => p.2.map fun v => (p.1, f v)) ↔ ∃ v, InMap M k v ∧ f v = b := by
  simp only [List.mem_flatMap, List.mem_map, Prod.mk.injEq, InMap]
  constructor
  · rintro ⟨p, hp, v, hv, rfl, rfl⟩
    exact ⟨v, ⟨p, hp, rfl, hv⟩, rfl⟩
  · rintro ⟨v, ⟨p, hp, rfl, hv⟩, rfl⟩
    exact ⟨p, hp, v, hv, rfl, rfl⟩

theorem inMap_transMap (A : Dfa) (s cc t : Nat) : InMap (transMap A s) cc t ↔ (cc, t) ∈ A.outs s := by
  simp only [InMap, transMap, List.mem_map, mem_normNat]
  constructor
  · rintro ⟨_, ⟨c, _, rfl⟩, rfl, ht⟩
    simp only [mem_normNat, List.mem_map, List.mem_filter, beq_iff_eq] at ht
    obtain ⟨p, ⟨hp, rfl⟩, rfl⟩ := ht
    exact hp
  · intro h
    refine ⟨_, ⟨cc, ⟨(cc, t), h, rfl⟩, rfl⟩, rfl, ?_⟩
    simp only [mem_normNat, List.mem_map, List.mem_filter, beq_iff_eq]
    exact ⟨(cc, t), ⟨h, rfl⟩, rfl⟩

theorem inMap_foldl_merge (A : Dfa) (ms : List Nat) (M : List (Nat × List Nat)) (c t : Nat) :
    InMap (ms.foldl (fun acc m => mergeInto acc (transMap A m)) M) c t ↔
      InMap M c t ∨ ∃ m ∈ ms, (c, t) ∈ A.outs m := by
  induction ms generalizing M with
  | nil => simp
  | cons m r ih => rw [List.foldl_cons, ih, inMap_mergeInto, inMap_transMap, exists_mem_cons_iff, or_assoc]

theorem mem_groupTrans (A : Dfa) (P : List (List Nat)) (g : List Nat) (cc k : Nat) :
    (cc, k) ∈ groupTrans A P g ↔ ∃ s ∈ g, ∃ t, (cc, t) ∈ A.outs s ∧ findGroup P t = k := by
  cases g with
  | nil => simp [groupTrans]
  | cons r ms =>
    simp only [groupTrans, mem_foldl_pushNewPair, List.not_mem_nil, false_or, mem_flatMap_inMap,
      inMap_foldl_merge, inMap_transMap, exists_mem_cons_iff, or_and_right, exists_or]
    exact or_congr Iff.rfl ⟨fun ⟨t, ⟨m, hm, h⟩, hk⟩ => ⟨m, hm, t, h, hk⟩, fun ⟨m, hm, t, h, hk⟩ => ⟨t, ⟨m, hm, h⟩, hk⟩⟩

/-- The hypotheses on a partition `Q` of the states of `A` (all invariant under reordering of the
    groups). -/
structure GoodPartition (A : Dfa) (Q : List (List Nat)) : Prop where
  covers : ∀ s, s < A.trans.length → ∃ g ∈ Q, s ∈ g
  targets : ∀ s cc t, (cc, t) ∈ A.outs s → t < A.trans.length
  disjoint : ∀ g ∈ Q, ∀ g' ∈ Q, ∀ s, s ∈ g → s ∈ g' → g = g'
  /-- all members of a group agree on (accepting, terminal) -/
  homog : ∀ g ∈ Q, ∀ s ∈ g, ∀ s' ∈ g, A.isEnd s = A.isEnd s' ∧ (A.isEnd s = true → A.tidOf s = A.tidOf s')
  /-- members of a group reach the same groups on every class -/
  stable : ∀ g ∈ Q, ∀ s ∈ g, ∀ s' ∈ g, ∀ cc t, (cc, t) ∈ A.outs s →
    ∃ t', (cc, t') ∈ A.outs s' ∧ ∃ h ∈ Q, t ∈ h ∧ t' ∈ h

theorem findGroup_mem (Q : List (List Nat)) (s : Nat) (h : ∃ g ∈ Q, s ∈ g) :
    ∃ g, Q[findGroup Q s]? = some g ∧ s ∈ g := by
  obtain ⟨g, hg, hs⟩ := h
  have hlt : findGroup Q s < Q.length :=
    List.findIdx_lt_length_of_exists ⟨g, hg, List.contains_iff_mem.mpr hs⟩
  exact ⟨Q[findGroup Q s], List.getElem?_eq_getElem hlt, List.contains_iff_mem.mp (List.findIdx_getElem (w := hlt))⟩

theorem findGroup_same {A : Dfa} {Q : List (List Nat)} (hq : GoodPartition A Q) {t t' : Nat} {h : List Nat}
    (hh : h ∈ Q) (ht : t ∈ h) (ht' : t' ∈ h) : findGroup Q t = findGroup Q t' := by
  have key : ∀ {a b : Nat}, a ∈ h → b ∈ h → ∀ g ∈ Q, g.contains a = true → g.contains b = true :=
    fun ha hb g hg hga => List.contains_iff_mem.mpr
      (hq.disjoint g hg h hh _ (List.contains_iff_mem.mp hga) ha ▸ hb)
  exact Nat.le_antisymm (List.findIdx_le_findIdx (key ht' ht)) (List.findIdx_le_findIdx (key ht ht'))

theorem startFirst_perm (P : List (List Nat)) : (startFirst P).Perm P :=
  List.filter_append_perm _ P

theorem mem_startFirst (P : List (List Nat)) (g : List Nat) : g ∈ startFirst P ↔ g ∈ P :=
  (startFirst_perm P).mem_iff

theorem goodPartition_startFirst {A : Dfa} {P : List (List Nat)} (h : GoodPartition A P) :
    GoodPartition A (startFirst P) := by
  have e := mem_startFirst P
  exact ⟨by simpa only [e] using h.covers, h.targets, by simpa only [e] using h.disjoint,
    by simpa only [e] using h.homog, by simpa only [e] using h.stable⟩

theorem findGroup_start {A : Dfa} {P : List (List Nat)} (h : GoodPartition A P) (hn : 0 < A.trans.length) :
    findGroup (startFirst P) 0 = 0 := by
  obtain ⟨g, hg, h0⟩ := h.covers 0 hn
  have hm : g ∈ P.filter (fun g => g.contains 0) := List.mem_filter.mpr ⟨hg, List.contains_iff_mem.mpr h0⟩
  unfold findGroup startFirst
  cases hf : P.filter (fun g => g.contains 0) with
  | nil => exact absurd (hf ▸ hm) List.not_mem_nil
  | cons x r =>
    have hx : x ∈ P.filter (fun g => g.contains 0) := hf ▸ List.mem_cons_self
    rw [List.cons_append, List.findIdx_cons, (List.mem_filter.mp hx).2]
    rfl

theorem groupEnd_spec (A : Dfa) (g : List Nat) (acc : Bool × Nat) :
    ((∀ s ∈ g, A.isEnd s = false) ∧
      g.foldl (fun acc s => if A.isEnd s then (true, A.tidOf s) else acc) acc = acc) ∨
    ∃ s ∈ g, A.isEnd s = true ∧
      g.foldl (fun acc s => if A.isEnd s then (true, A.tidOf s) else acc) acc = (true, A.tidOf s) := by
  induction g generalizing acc with
  | nil => exact Or.inl ⟨fun _ h => (nomatch h), rfl⟩
  | cons x r ih =>
    rw [List.foldl_cons]
    by_cases hx : A.isEnd x = true
    · rw [if_pos hx]
      rcases ih (true, A.tidOf x) with ⟨_, he⟩ | ⟨s, hs, h⟩
      · exact Or.inr ⟨x, List.mem_cons_self, hx, he⟩
      · exact Or.inr ⟨s, List.mem_cons_of_mem _ hs, h⟩
    · rw [if_neg hx]
      rcases ih acc with ⟨hr, he⟩ | ⟨s, hs, h⟩
      · exact Or.inl ⟨List.forall_mem_cons.mpr ⟨Bool.eq_false_iff.mpr hx, hr⟩, he⟩
      · exact Or.inr ⟨s, List.mem_cons_of_mem _ hs, h⟩

theorem langFrom_map {A B : Dfa} {f : Nat → Nat} {I : Nat → Prop}
    (hout : ∀ s, I s → ∀ cc k, (cc, k) ∈ B.outs (f s) ↔ ∃ t, (cc, t) ∈ A.outs s ∧ f t = k)
    (hI : ∀ s, I s → ∀ cc t, (cc, t) ∈ A.outs s → I t)
    (hend : ∀ s, I s → B.isEnd (f s) = A.isEnd s ∧ (A.isEnd s = true → B.tidOf (f s) = A.tidOf s))
    (cm : Nat → Nat → Bool) (w : List Nat) (t : Nat) :
    ∀ s, I s → (B.LangFrom cm (f s) w t ↔ A.LangFrom cm s w t) := by
  induction w with
  | nil =>
    intro s hs
    obtain ⟨e1, e2⟩ := hend s hs
    show B.isEnd (f s) = true ∧ _ ↔ A.isEnd s = true ∧ _
    rw [e1]
    exact and_congr_right fun he => by rw [e2 he]
  | cons c w ih =>
    intro s hs
    constructor
    · rintro ⟨cc, k, hk, hc, hl⟩
      obtain ⟨x, hx, rfl⟩ := (hout s hs cc k).mp hk
      exact ⟨cc, x, hx, hc, (ih x (hI s hs cc x hx)).mp hl⟩
    · rintro ⟨cc, x, hx, hc, hl⟩
      exact ⟨cc, f x, (hout s hs cc _).mpr ⟨x, hx, rfl⟩, hc, (ih x (hI s hs cc x hx)).mpr hl⟩

theorem acceptsTid_map {A B : Dfa} {f : Nat → Nat} {I : Nat → Prop}
    (hout : ∀ s, I s → ∀ cc k, (cc, k) ∈ B.outs (f s) ↔ ∃ t, (cc, t) ∈ A.outs s ∧ f t = k)
    (hI : ∀ s, I s → ∀ cc t, (cc, t) ∈ A.outs s → I t)
    (hend : ∀ s, I s → B.isEnd (f s) = A.isEnd s ∧ (A.isEnd s = true → B.tidOf (f s) = A.tidOf s))
    (h0 : f 0 = 0) (hI0 : I 0) (cm : Nat → Nat → Bool) (w : List Nat) (t : Nat) :
    acceptsTid B cm w t ↔ acceptsTid A cm w t := by
  have := langFrom_map hout hI hend cm w t 0 hI0
  rwa [h0, ← acceptsTid_iff_langFrom, ← acceptsTid_iff_langFrom] at this

/-- the automaton `create_from_partition` builds from the groups `Q` in their final order:
    `createFromPartition A P` is `quotient A (startFirst P)` -/
def quotient (A : Dfa) (Q : List (List Nat)) : Dfa :=
  { trans := Q.map (groupTrans A Q), ends := Q.map (groupEnd A), prio := A.prio }

theorem quotient_outs (A : Dfa) (Q : List (List Nat)) (j : Nat) (g : List Nat) (h : Q[j]? = some g) :
    (quotient A Q).outs j = groupTrans A Q g := by
  simp only [quotient, Dfa.outs, List.getD_eq_getElem?_getD, List.getElem?_map, h]
  rfl

theorem quotient_end (A : Dfa) (Q : List (List Nat)) (j : Nat) (g : List Nat) (h : Q[j]? = some g) :
    (quotient A Q).isEnd j = (groupEnd A g).1 ∧ (quotient A Q).tidOf j = (groupEnd A g).2 := by
  simp only [quotient, Dfa.isEnd, Dfa.tidOf, List.getD_eq_getElem?_getD, List.getElem?_map, h]
  exact ⟨rfl, rfl⟩

/-- By stability every member of a group represents it. -/
theorem quotient_outs_of_state {A : Dfa} {Q : List (List Nat)} (hq : GoodPartition A Q) (s : Nat)
    (hs : s < A.trans.length) (cc k : Nat) :
    (cc, k) ∈ (quotient A Q).outs (findGroup Q s) ↔ ∃ t, (cc, t) ∈ A.outs s ∧ findGroup Q t = k := by
  obtain ⟨g, hg, hsg⟩ := findGroup_mem Q s (hq.covers s hs)
  rw [quotient_outs A Q _ g hg, mem_groupTrans]
  constructor
  · rintro ⟨s', hs', t', ht', rfl⟩
    obtain ⟨t, ht, h, hh, h1, h2⟩ := hq.stable g (List.mem_of_getElem? hg) s' hs' s hsg cc t' ht'
    exact ⟨t, ht, findGroup_same hq hh h2 h1⟩
  · rintro ⟨t, ht, rfl⟩
    exact ⟨s, hsg, t, ht, rfl⟩

theorem quotient_end_of_state {A : Dfa} {Q : List (List Nat)} (hq : GoodPartition A Q) (s : Nat)
    (hs : s < A.trans.length) :
    (quotient A Q).isEnd (findGroup Q s) = A.isEnd s ∧
    (A.isEnd s = true → (quotient A Q).tidOf (findGroup Q s) = A.tidOf s) := by
  obtain ⟨g, hg, hsg⟩ := findGroup_mem Q s (hq.covers s hs)
  obtain ⟨e1, e2⟩ := quotient_end A Q _ g hg
  rw [e1, e2, groupEnd]
  rcases groupEnd_spec A g (false, 0) with ⟨hall, h⟩ | ⟨s', hs', he', h⟩
  · rw [h, hall s hsg]
    exact ⟨rfl, fun h => nomatch h⟩
  · obtain ⟨a1, a2⟩ := hq.homog g (List.mem_of_getElem? hg) s' hs' s hsg
    rw [h]
    exact ⟨(a1.symm.trans he').symm, fun _ => a2 he'⟩

theorem createFromPartition_preserves (A : Dfa) (P : List (List Nat)) (hp : GoodPartition A P)
    (hn : 0 < A.trans.length) (cm : Nat → Nat → Bool) (w : List Nat) (t : Nat) :
    acceptsTid (createFromPartition A P) cm w t ↔ acceptsTid A cm w t :=
  have hq := goodPartition_startFirst hp
  acceptsTid_map (I := (· < A.trans.length)) (quotient_outs_of_state hq) (fun s _ => hq.targets s)
    (quotient_end_of_state hq) (findGroup_start hp hn) hn cm w t

theorem goodPartitionCheck_sound (A : Dfa) (P : List (List Nat)) (h : goodPartitionCheck A P = true) :
    GoodPartition A P := by
  unfold goodPartitionCheck at h
  simp only [Bool.and_eq_true, List.all_eq_true, List.any_eq_true, List.mem_range, decide_eq_true_eq,
    List.contains_iff_mem, Bool.or_eq_true, beq_iff_eq, Bool.not_eq_true'] at h
  obtain ⟨⟨⟨⟨h1, h2⟩, h3⟩, h4⟩, h5⟩ := h
  refine ⟨h1, targets_of_all h2, ?_, ?_, ?_⟩
  · intro g hg g' hg' s hs hs'
    rcases h3 g hg g' hg' with h | h
    · exact h
    · exact absurd (List.contains_iff_mem.mpr hs') (Bool.eq_false_iff.mp (h s hs))
  · intro g hg s hs s' hs'
    obtain ⟨a, b⟩ := h4 g hg s hs s' hs'
    exact ⟨a, fun he => b.resolve_left (Bool.eq_false_iff.mp · he)⟩
  · intro g hg s hs s' hs' cc t hout
    obtain ⟨⟨_, t'⟩, hp', rfl, k, hk, hk1, hk2⟩ := h5 g hg s hs s' hs' (cc, t) hout
    exact ⟨t', hp', k, hk, hk1, hk2⟩

end Scnr

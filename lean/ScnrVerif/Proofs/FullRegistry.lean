import ScnrVerif.Proofs.Registry
import ScnrVerif.Proofs.FullScanner
/-!
# From pattern ASTs with class *keys* to tokens: registry + compiler + finder

`assignScanner ms` runs the class registry over all modes of a configuration whose AST leaves are
keys (equality classes of `ComparableAst`) and returns the configuration with registry ids plus the
registry. `whole_scanner_from_keys`: under the class function of that registry, the finder of the
compiled scanner follows, in every mode, the pattern-level trailing-context rule of the *key-level*
patterns under `sem` (the set each key denotes, C08) — for every configuration and every input.
-/
namespace Scnr

/-- `assignModes` on the pattern lists of the modes, put back into the modes (names and transitions
    untouched); the second component is the final registry -/
def assignScanner (ms : List CMode) : List CMode × List Nat :=
  (List.zipWith (fun (m : CMode) ps => { m with pats := ps }) ms (assignModes (ms.map (·.pats)) []).1,
    (assignModes (ms.map (·.pats)) []).2)

theorem pfindOK_congr {cm sem : Nat → Nat → Bool} {ps' ps : List CPat}
    (htid : ps'.map (·.tid) = ps.map (·.tid))
    (hc : ∀ i0 w k, PCand cm ps' i0 w k ↔ PCand sem ps i0 w k) (w : List Nat) (r : Option (Nat × Nat)) :
    PFindOK cm ps' w r ↔ PFindOK sem ps w r := by
  cases r with
  | none => simp only [PFindOK, hc]
  | some te => simp only [PFindOK, hc, htid]

theorem zipWith_pats {r : List CPat → List CPat → Prop} : ∀ (ms : List CMode) (L : List (List CPat)),
    Forall₂ r L (ms.map (·.pats)) →
      Forall₂ (fun md' md => r md'.pats md.pats) (List.zipWith (fun (m : CMode) ps => { m with pats := ps }) ms L) ms
  | [], _, h => by cases h; exact .nil
  | _ :: ms, _, .cons h hs => .cons h (zipWith_pats ms _ hs)

theorem whole_scanner_from_keys (ms : List CMode) (hn : ∀ md ∈ ms, (md.pats.map (·.tid)).Nodup)
    (sem : Nat → Nat → Bool) (m : Nat) (w : List Nat) :
    match ms[m]? with
    | none => modelFinder (compileScanner (assignScanner ms).1) (regCm (assignScanner ms).2 sem) m w = none
    | some md => PFindOK sem md.pats w
        (modelFinder (compileScanner (assignScanner ms).1) (regCm (assignScanner ms).2 sem) m w) := by
  have hz := zipWith_pats ms _ ((assignModes_spec (ms.map (·.pats)) [] List.nodup_nil).2.2 _ (List.prefix_refl _) sem)
  change Forall₂ _ (assignScanner ms).1 ms at hz
  have h := scanner_finder_spec (assignScanner ms).1 (fun md' hmd' => by
    obtain ⟨md, hmd, hr⟩ := hz.mem_left hmd'
    rw [hr.map_eq fun _ _ h => h.1]
    exact hn md hmd) (regCm (assignScanner ms).2 sem) m w
  cases hm : ms[m]? with
  | none =>
    have hm' : (assignScanner ms).1[m]? = none := by
      rw [List.getElem?_eq_none_iff, hz.length_eq, ← List.getElem?_eq_none_iff]; exact hm
    rw [hm'] at h
    exact h
  | some md =>
    obtain ⟨md', hm', hr⟩ := hz.getElem? hm
    rw [hm'] at h
    exact (pfindOK_congr (hr.map_eq fun _ _ h => h.1) (pcand_of_patAgrees hr) w _).mp h

end Scnr

import ScnrVerif.Proofs.ThompsonBase
/-!
# The state tables of the Thompson operations

On NFAs with base 0 every operation of `Model/Compile.lean` yields a table of one shape: the tables of
the operands one behind the other, the end state of an operand with some new ε-edges, and behind them new
states that have ε-edges only. What the correctness proofs need is read off such a table.
-/
namespace Scnr

namespace Nfa

theorem shift_len (b : Nfa) (k : Nat) : (b.shift k).states.length = b.states.length := by
  simp only [Nfa.shift, List.length_map]

theorem addEps_len {n : Nfa} {src dst : Nat} : (n.addEps src dst).states.length = n.states.length := by
  simp only [Nfa.addEps, Nfa.modifyState, List.length_modify]

theorem state_fin {a : Nfa} (ha : a.WF) : a.state a.fin = ⟨[], []⟩ :=
  match a.state a.fin, ha.fin_out with
  | ⟨_, _⟩, ⟨rfl, rfl⟩ => rfl

/-- an NFA as the Thompson operations take and return it: well formed, not yet shifted, no edge into
    its start state -/
structure Ok (n : Nfa) : Prop where
  wf : n.WF
  base : n.base = 0
  fresh : n.StartFresh

theorem state0 {n : Nfa} (h0 : n.base = 0) (s : Nat) : n.state s = n.states[s]?.getD ⟨[], []⟩ := by
  simp only [Nfa.state, h0, Nat.sub_zero, List.getD_eq_getElem?_getD]

theorem contains0 {n : Nfa} (h0 : n.base = 0) (s : Nat) : n.contains s = true ↔ s < n.states.length := by
  rw [contains_iff, h0]; omega

theorem not_contains0 {n : Nfa} (h0 : n.base = 0) {x : Nat} (hx : n.states.length ≤ x) : n.contains x = false := by
  rw [Bool.eq_false_iff, Ne, contains0 h0]; omega

theorem Ok.fin_lt {a : Nfa} (ha : a.Ok) : a.fin < a.states.length := (contains0 ha.base _).mp ha.wf.fin_in
theorem Ok.start_lt {a : Nfa} (ha : a.Ok) : a.start < a.states.length := (contains0 ha.base _).mp ha.wf.start_in

def addE (dst : Nat) (s : NState) : NState := { s with eps := s.eps ++ [dst] }

theorem exists_of_contains {n : Nfa} {x : Nat} (h : n.contains x = true) :
    ∃ j, x = n.base + j ∧ j < n.states.length := by
  obtain ⟨h1, h2⟩ := (contains_iff n x).mp h
  exact ⟨x - n.base, (Nat.add_sub_cancel' h1).symm, Nat.sub_lt_left_of_lt_add h1 h2⟩

theorem Ext.of_table {r p : Nfa} {pre post : List NState} {g : NState → NState} {i : Nat} (hr0 : r.base = 0)
    (hp : p.WF) (hpb : p.base = pre.length) (hi : p.fin = pre.length + i)
    (hs : r.states = pre ++ p.states.modify i g ++ post) (hg : (g ⟨[], []⟩).trans = []) :
    Ext r p ∧ r.state p.fin = g ⟨[], []⟩ := by
  have hst : ∀ j, j < p.states.length → r.state (pre.length + j) = (p.states.modify i g)[j]?.getD ⟨[], []⟩ := by
    intro j hj
    rw [state0 hr0, hs, List.getElem?_append_left (by
        rw [List.length_append, List.length_modify]; exact Nat.add_lt_add_left hj _),
      List.getElem?_append_right (Nat.le_add_right _ _), Nat.add_sub_cancel_left]
  have hpst : ∀ j, p.state (pre.length + j) = p.states[j]?.getD ⟨[], []⟩ := fun j => by
    rw [Nfa.state, hpb, Nat.add_sub_cancel_left, List.getD_eq_getElem?_getD]
  have hil : i < p.states.length := by
    have := ((contains_iff p p.fin).mp hp.fin_in).2
    rw [hi, hpb] at this
    exact Nat.lt_of_add_lt_add_left this
  have hfin : r.state p.fin = g ⟨[], []⟩ := by
    have h0 := state_fin hp
    rw [hi, hpst, List.getElem?_eq_getElem hil] at h0
    rw [hi, hst i hil, List.getElem?_modify_eq, List.getElem?_eq_getElem hil]
    exact congrArg g h0
  refine ⟨⟨fun x hx => ?_, fun x hx hne => ?_, by rw [hfin]; exact hg⟩, hfin⟩
  · obtain ⟨j, rfl, hj⟩ := exists_of_contains hx
    rw [hpb, contains0 hr0, hs, List.length_append, List.length_append, List.length_modify]
    exact Nat.lt_add_right _ (Nat.add_lt_add_left hj _)
  · obtain ⟨j, rfl, hj⟩ := exists_of_contains hx
    rw [hpb] at hne ⊢
    rw [hst j hj, hpst, List.getElem?_modify_ne _ _ fun e => hne (by rw [hi, e])]

theorem Ext.of_table_same {r p : Nfa} {pre post : List NState} (hr0 : r.base = 0) (hp : p.WF)
    (hpb : p.base = pre.length) (hs : r.states = pre ++ p.states ++ post) : Ext r p ∧ r.state p.fin = ⟨[], []⟩ :=
  Ext.of_table (g := id) (i := p.fin - p.base) hr0 hp hpb
    (by rw [← hpb]; exact (Nat.add_sub_cancel' ((contains_iff p p.fin).mp hp.fin_in).1).symm)
    (by rw [List.modify_id]; exact hs) rfl

theorem shift_behind {a b : Nfa} (hb : b.Ok) (g : NState → NState) (i : Nat) :
    (b.shift a.states.length).base = (a.states.modify i g).length ∧
      (b.shift a.states.length).fin = (a.states.modify i g).length + b.fin := by
  rw [List.length_modify]
  exact ⟨by show b.base + _ = _; rw [hb.base, Nat.zero_add], Nat.add_comm _ _⟩

theorem state_behind {r : Nfa} {X T : List NState} {n : Nat} (hr0 : r.base = 0) (hs : r.states = X ++ T)
    (hn : X.length = n) (i : Nat) : r.state (n + i) = T[i]?.getD ⟨[], []⟩ := by
  rw [state0 hr0, hs, ← hn, List.getElem?_append_right (Nat.le_add_right _ _), Nat.add_sub_cancel_left]

end Nfa

theorem NState.To.addE {st : NState} {P : Nat → Prop} {d : Nat} (h : st.To P) (hd : P d) : (Nfa.addE d st).To P :=
  ⟨fun t ht => (List.mem_append.mp ht).elim (h.eps t) fun h' => List.mem_singleton.mp h' ▸ hd, h.trans⟩

theorem NState.To.of_eps {L : List Nat} {P : Nat → Prop} (h : ∀ t ∈ L, P t) : NState.To ⟨L, []⟩ P :=
  ⟨h, fun _ hp => nomatch hp⟩

namespace Nfa

variable {n r : Nfa} {P : Nat → Prop}

theorem Edges.of_table (h : ∀ st ∈ r.states, st.To P) : r.Edges P := by
  intro s hs
  have hs' := (contains_iff r s).mp hs
  rw [Nfa.state, List.getD_eq_getElem?_getD, List.getElem?_eq_getElem (by omega), Option.getD_some]
  exact h _ (List.getElem_mem _)

theorem Edges.table (h : n.Edges P) : ∀ st ∈ n.states, st.To P := by
  intro st hst
  obtain ⟨i, hi, rfl⟩ := List.mem_iff_getElem.mp hst
  have := h (n.base + i) ((contains_iff _ _).mpr ⟨Nat.le_add_right _ _, Nat.add_lt_add_left hi _⟩)
  rwa [Nfa.state, Nat.add_sub_cancel_left, List.getD_eq_getElem?_getD, List.getElem?_eq_getElem hi,
    Option.getD_some] at this

theorem Ok.edges (h : n.Ok) : n.Edges fun t => t < n.states.length ∧ t ≠ n.start :=
  fun s hs =>
    ⟨fun t ht => ⟨(contains0 h.base t).mp (h.wf.eps_in s hs t ht), fun e => (h.fresh s hs).1 (e ▸ ht)⟩,
      fun p hp => ⟨(contains0 h.base _).mp (h.wf.trans_in s hs p hp), (h.fresh s hs).2 p hp⟩⟩

theorem Ok.table (h : n.Ok) (hP : ∀ t, t < n.states.length → t ≠ n.start → P t) : ∀ st ∈ n.states, st.To P :=
  (h.edges.mono fun t ht => hP t ht.1 ht.2).table

theorem Ok.shift_table {k : Nat} (h : n.Ok) (hP : ∀ t, t < n.states.length → P (t + k)) :
    ∀ st ∈ (n.shift k).states, st.To P :=
  (shift_edges (h.edges.mono fun t ht => hP t ht.1)).table

/-- `t` is one of the `n` old states; the result has `n + k` states and its new start state is `n` -/
theorem lt_and_ne {t n : Nat} (h : t < n) (k : Nat) : t < n + k ∧ t ≠ n :=
  ⟨Nat.lt_add_right k h, Nat.ne_of_lt h⟩

theorem Ok.of_table {n s : Nat} (h0 : r.base = 0) (ht : ∀ st ∈ r.states, st.To fun t => t < n ∧ t ≠ s)
    (hn : r.states.length = n) (hs : r.start = s) (hsn : s < n) (hf : r.fin < n) (hfo : r.state r.fin = ⟨[], []⟩) :
    r.Ok := by
  subst hn hs
  have he := Edges.of_table ht
  exact
    { wf :=
        { start_in := (contains0 h0 _).mpr hsn
          fin_in := (contains0 h0 _).mpr hf
          eps_in := fun s hs t ht => (contains0 h0 t).mpr ((he s hs).eps t ht).1
          trans_in := fun s hs p hp => (contains0 h0 _).mpr ((he s hs).trans p hp).1
          fin_out := by rw [hfo]; exact ⟨rfl, rfl⟩ }
      base := h0
      fresh := fun s hs => ⟨fun hm => ((he s hs).eps _ hm).2 rfl, fun p hp => ((he s hs).trans p hp).2⟩ }

end Nfa

end Scnr

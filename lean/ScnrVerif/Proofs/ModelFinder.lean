import ScnrVerif.Proofs.Iter
import ScnrVerif.Proofs.SpecFind
/-!
# The model of `find_from` is a finder to which the iterator theory applies (`modelFinder_ok`)
-/
namespace Scnr

/-- `modelFinder` without the identity `fun r => (r.1, r.2)` that it maps over the result of `findFrom`. -/
theorem modelFinder_eq (Ms : List ModeDfa) (cm : Nat → Nat → Bool) (m : Nat) (w : List Nat) :
    modelFinder Ms cm m w = Ms[m]?.bind fun M => findFrom M cm 0 w := by
  unfold modelFinder
  cases Ms[m]? with
  | none => rfl
  | some M =>
    show (findFrom M cm 0 w).map (fun r => (r.1, r.2)) = findFrom M cm 0 w
    cases findFrom M cm 0 w <;> rfl

theorem modelFinder_ok (Ms : List ModeDfa) (cm : Nat → Nat → Bool) : FinderOK (modelFinder Ms cm) := by
  intro m w t len h
  obtain ⟨M, _, hr⟩ := Option.bind_eq_some_iff.mp (modelFinder_eq Ms cm m w ▸ h)
  obtain ⟨k, hk, _, hke, _⟩ := findFrom_some M cm 0 w t len hr
  obtain ⟨u, v, hu, hw, _, hend, _⟩ := (mem_specCands_iff M cm 0 w k).mp hk
  exact ⟨u, v, hu, hw, by rw [← hke, hend, Nat.zero_add]⟩

end Scnr

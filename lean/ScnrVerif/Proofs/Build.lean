import ScnrVerif.Model.Build
/-!
# Build classification theorems (C15)

The stages thread a class registry `reg : List Bool`, but `build` only ever asks `reg.all id`. `Sound g b`
says what a stage does to that Boolean and that its errors are never `BuildResult.ok`; it is closed under
`Except.bind`, so every traversal of `Model/Build.lean` is sound by a short induction, and
`build_ok_iff` reads the result off `stageModes`.
-/
namespace Scnr

/-- `Sound g b`: the staged step `g` never fails with `BuildResult.ok` (the error type of the stages has
    a constructor of that name), fails only if `b = false`, and otherwise conjoins `b` onto the registry
    abstracted to the Boolean `reg.all id`. -/
def Sound (g : List Bool → Except BuildResult (List Bool)) (b : Bool) : Prop :=
  ∀ reg, match g reg with
    | .error e => e ≠ .ok ∧ b = false
    | .ok reg' => reg'.all id = (reg.all id && b)

theorem Sound.pure : Sound .ok true := fun _ => (Bool.and_true _).symm

theorem Sound.bind {f g h : List Bool → Except BuildResult (List Bool)} {b c : Bool} (hg : Sound g b)
    (hh : Sound h c) (hf : ∀ reg, f reg = (g reg).bind h) : Sound f (b && c) := by
  intro reg
  have h1 := hg reg
  rw [hf reg, Except.bind.eq_def]
  generalize g reg = x at h1 ⊢
  cases x with
  | error e => exact ⟨h1.1, by rw [h1.2, Bool.false_and]⟩
  | ok r =>
    have h2 := hh r
    dsimp only
    generalize h r = y at h2 ⊢
    cases y with
    | error e => exact ⟨h2.1, by rw [h2.2, Bool.and_false]⟩
    | ok r' => exact h2.trans (by rw [h1, Bool.and_assoc])

/-- `Registers g u`: the `try_from_ast` step `g` fails only if `u` (something unsupported was met);
    otherwise it appends the classes it met to the registry, and one of them is unsupported iff `u`. -/
def Registers (g : List Bool → Option (List Bool)) (u : Bool) : Prop :=
  ∀ reg, match g reg with
    | none => u = true
    | some reg' => ∃ cs, reg' = reg ++ cs ∧ cs.all id = !u

theorem Registers.bind {f g h : List Bool → Option (List Bool)} {u v : Bool} (hg : Registers g u)
    (hh : Registers h v) (hf : ∀ reg, f reg = (g reg).bind h) : Registers f (u || v) := by
  intro reg
  have h1 := hg reg
  rw [hf reg]
  generalize g reg = x at h1 ⊢
  cases x with
  | none => exact show (u || v) = true by rw [h1, Bool.true_or]
  | some r =>
    obtain ⟨cs, rfl, hcs⟩ := h1
    have h2 := hh (reg ++ cs)
    rw [Option.bind_some]
    generalize h (reg ++ cs) = y at h2 ⊢
    cases y with
    | none => exact show (u || v) = true by rw [h2, Bool.or_true]
    | some r' =>
      obtain ⟨ds, rfl, hds⟩ := h2
      exact ⟨cs ++ ds, List.append_assoc .., by rw [List.all_append, hcs, hds, Bool.not_or]⟩

theorem Registers.push (s : Bool) : Registers (fun reg => some (reg ++ [s])) (!s) := fun _ =>
  ⟨[s], rfl, by rw [List.all_cons, List.all_nil, Bool.and_true, Bool.not_not]; rfl⟩

theorem Registers.guard (c : Bool) : Registers (fun reg => if c then some reg else none) (!c) := by
  cases c with
  | false => exact fun _ => rfl
  | true => exact fun reg => ⟨[], (List.append_nil reg).symm, rfl⟩

theorem tryFromAst_spec (a : FAst) (reg : List Bool) :
    match tryFromAst a reg with
    | none => a.hasUnsupported = true
    | some reg' => ∃ cs, reg' = reg ++ cs ∧ (cs.all id = !a.hasUnsupported) := by
  revert reg
  show Registers (tryFromAst a) a.hasUnsupported
  induction a with
  | empty => exact Registers.guard true
  | flags | assertion => exact fun _ => rfl
  | literal | dot => exact Registers.push true
  | cls s => exact Registers.push s
  | rep greedy x ih =>
    -- `tryFromAst` descends into `x` before it looks at `greedy`; `hasUnsupported` lists them the other way round
    rw [FAst.hasUnsupported, Bool.or_comm]
    refine ih.bind (Registers.guard greedy) fun reg => ?_
    cases e : tryFromAst x reg <;> simp only [tryFromAst, e, Option.bind]
  | group flagged x ih =>
    cases flagged with
    | true => exact fun _ => rfl
    | false => exact ih
  | alt a b iha ihb | concat a b iha ihb =>
    refine iha.bind ihb fun reg => ?_
    cases e : tryFromAst a reg <;> simp only [tryFromAst, e, Option.bind]

def okAst : Option FAst → Bool
  | some x => !x.hasUnsupported
  | none => false

theorem sound_stage (a : Option FAst) : Sound (stage a) (okAst a) := by
  intro reg
  cases a with
  | none => exact ⟨nofun, rfl⟩
  | some x =>
    have h := tryFromAst_spec x reg
    rw [stage]
    generalize tryFromAst x reg = r at h ⊢
    cases r with
    | none => exact ⟨nofun, by rw [okAst, h]; rfl⟩
    | some reg' =>
      obtain ⟨cs, rfl, hcs⟩ := h
      exact (List.all_append ..).trans (by rw [hcs]; rfl)

theorem sound_stagePatterns (m : List BPat) : Sound (stagePatterns m) (m.all fun p => okAst p.ast) := by
  induction m with
  | nil => exact Sound.pure
  | cons p ps ih =>
    refine (sound_stage p.ast).bind ih fun reg => ?_
    cases e : stage p.ast reg <;> simp only [stagePatterns, e, Except.bind]

theorem sound_stageLookaheads (m : List BPat) :
    Sound (stageLookaheads m) (m.all fun p => p.lookahead.all okAst) := by
  induction m with
  | nil => exact Sound.pure
  | cons p ps ih =>
    cases hl : p.lookahead with
    | none =>
      intro reg
      simp only [stageLookaheads, hl, List.all_cons, Option.all_none, Bool.true_and]
      exact ih reg
    | some la =>
      rw [List.all_cons, hl, Option.all_some]
      refine (sound_stage la).bind ih fun reg => ?_
      cases e : stage la reg <;> simp only [stageLookaheads, hl, e, Except.bind]

theorem sound_stageModes (ms : List (List BPat)) : Sound (stageModes ms)
    (ms.all fun m => (m.all fun p => okAst p.ast) && (m.all fun p => p.lookahead.all okAst)) := by
  induction ms with
  | nil => exact Sound.pure
  | cons m ms ih =>
    refine ((sound_stagePatterns m).bind (sound_stageLookaheads m) fun _ => rfl).bind ih fun reg => ?_
    cases e1 : stagePatterns m reg with
    | error x => simp only [stageModes, e1, Except.bind]
    | ok r => cases e2 : stageLookaheads m r <;> simp only [stageModes, e1, e2, Except.bind]

theorem all_and {α} (p q : α → Bool) (l : List α) :
    (l.all fun x => p x && q x) = (l.all p && l.all q) := by
  induction l with
  | nil => rfl
  | cons x xs ih => simp only [List.all_cons, ih, Bool.and_assoc, Bool.and_left_comm]

theorem ok_eq_supported (p : BPat) :
    (okAst p.ast && p.lookahead.all okAst) = (p.parses && !p.hasUnsupported) := by
  obtain ⟨_ | x, _ | _ | y⟩ := p <;> simp [okAst, BPat.parses, BPat.hasUnsupported]

theorem allSupported_eq (modes : List (List BPat)) : allSupported modes =
    modes.all fun m => (m.all fun p => okAst p.ast) && (m.all fun p => p.lookahead.all okAst) := by
  simp only [allSupported, ← all_and, ok_eq_supported]

theorem build_ok_iff (modes : List (List BPat)) : build modes = .ok ↔ allSupported modes = true := by
  have h := sound_stageModes modes []
  rw [← allSupported_eq] at h
  unfold build
  generalize stageModes modes [] = r at h ⊢
  cases r with
  | error e => rw [h.2]; exact ⟨fun he => absurd he h.1, nofun⟩
  | ok reg =>
    replace h : reg.all id = allSupported modes := h
    rw [← h]
    dsimp only
    cases reg.all id with
    | false => exact ⟨nofun, nofun⟩
    | true => exact ⟨fun _ => rfl, fun _ => rfl⟩

theorem supported_builds (modes : List (List BPat)) (h : allSupported modes = true) : build modes = .ok :=
  (build_ok_iff modes).mpr h

theorem ok_only_if_supported (modes : List (List BPat)) (h : build modes = .ok) : allSupported modes = true :=
  (build_ok_iff modes).mp h

end Scnr

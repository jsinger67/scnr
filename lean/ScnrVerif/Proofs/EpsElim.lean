import ScnrVerif.Proofs.SubsetConstr
import ScnrVerif.Proofs.EpsClosure
/-!
# The closure construction (`impl From<MultiPatternNfa> for CompiledDfa`) is correct (track A)

The compiled automaton has one state per ε-closure of a single NFA state; it accepts a non-empty
word for a terminal exactly if the NFA of some pattern with that terminal accepts it (`buildDfa_correct`).
This is `gen_correct` (`SubsetConstr.lean`) at `m.gen`: the match transitions of a closure are the edges
of the pattern NFAs behind ε-moves, a step of the construction is a step `Nfa.StepC` of a pattern NFA, and
the words that lead to acceptance are `MNfa.Lang`.
Lemmas named `*_valid` are about a state of some pattern NFA (`MNfa.Valid`), those named `*_zero` about state 0.
-/
namespace Scnr

theorem mem_insertByTarget (x y : Nat × Nat) (l : List (Nat × Nat)) :
    y ∈ insertByTarget x l ↔ y = x ∨ y ∈ l := by
  induction l with
  | nil => exact List.mem_singleton.trans (or_iff_left List.not_mem_nil).symm
  | cons z r ih =>
    rw [insertByTarget]
    split
    · exact List.mem_cons
    · rw [List.mem_cons, ih, List.mem_cons, or_left_comm]

theorem mem_sortByTarget (l : List (Nat × Nat)) (y : Nat × Nat) : y ∈ sortByTarget l ↔ y ∈ l := by
  simpa [sortByTarget] using mem_foldl_step (ins := fun acc x => insertByTarget x acc)
    (fun acc x y => by rw [mem_insertByTarget, or_comm]) l [] y

theorem mem_dedupAdj (l : List (Nat × Nat)) (y : Nat × Nat) : y ∈ dedupAdj l ↔ y ∈ l := by
  fun_induction dedupAdj l with
  | case1 => exact Iff.rfl
  | case2 x => exact Iff.rfl
  | case3 x r ih =>
    rw [ih, List.mem_cons (l := x :: r)]
    exact (or_iff_right_of_imp fun e => e ▸ List.mem_cons_self).symm
  | case4 x z r _ ih => rw [List.mem_cons, ih, List.mem_cons (l := z :: r)]

/-- the class transitions leaving NFA state `s` (state 0: those of every pattern's start state) -/
def MNfa.transOf (m : MNfa) (s : Nat) : List (Nat × Nat) :=
  if s = 0 then m.flatMap fun p => (p.2.state p.2.start).trans
  else match m.findNfa s with
    | some p => (p.2.state s).trans
    | none => []

theorem mem_matchTransitions (m : MNfa) (cl : List Nat) (x : Nat × Nat) :
    x ∈ m.matchTransitions cl ↔ ∃ s ∈ cl, x ∈ m.transOf s := by
  simp only [MNfa.matchTransitions, mem_dedupAdj, mem_sortByTarget, List.mem_flatMap, MNfa.transOf]
  exact Iff.rfl

/-- the pattern NFAs are well formed and lie behind state 0, below `totalStates m`, one behind the other
    without overlap; `mkMNfa_wf` shows it of the compiler's own list -/
structure MWF (m : MNfa) : Prop where
  wf : ∀ p ∈ m, p.2.WF
  pos : ∀ p ∈ m, 1 ≤ p.2.base
  bound : ∀ p ∈ m, p.2.base + p.2.states.length ≤ totalStates m
  disj : m.Pairwise fun p q => p.2.base + p.2.states.length ≤ q.2.base

theorem findNfa_eq {m : MNfa} (hm : MWF m) {p : Nat × Nfa} (hp : p ∈ m) {s : Nat}
    (hs : p.2.contains s = true) : m.findNfa s = some p := by
  obtain ⟨l, r, rfl⟩ := List.append_of_mem hp
  refine List.find?_eq_some_iff_append.mpr ⟨hs, l, r, rfl, fun q hq => ?_⟩
  -- an earlier pattern ends before `p` begins
  have hlt := (List.pairwise_append.mp hm.disj).2.2 q hq p List.mem_cons_self
  rw [Bool.not_eq_true']
  refine Bool.eq_false_iff.mpr fun hq' => ?_
  have := ((Nfa.contains_iff _ _).mp hq').2
  have := ((Nfa.contains_iff _ _).mp hs).1
  omega

theorem findNfa_some {m : MNfa} {s : Nat} {p : Nat × Nfa} (h : m.findNfa s = some p) :
    p ∈ m ∧ p.2.contains s = true := by
  simp only [MNfa.findNfa] at h
  exact ⟨List.mem_of_find?_eq_some h, by simpa using List.find?_some h⟩

/-- a state of some pattern NFA -/
def MNfa.Valid (m : MNfa) (s : Nat) : Prop := ∃ p ∈ m, p.2.contains s = true

theorem valid_ne_zero {m : MNfa} (hm : MWF m) {s : Nat} (h : m.Valid s) : s ≠ 0 := by
  obtain ⟨p, hp, hs⟩ := h
  have := hm.pos p hp
  have := (Nfa.contains_iff _ _).mp hs
  omega

theorem valid_lt {m : MNfa} (hm : MWF m) {s : Nat} (h : m.Valid s) : s < totalStates m := by
  obtain ⟨p, hp, hs⟩ := h
  have := hm.bound p hp
  have := (Nfa.contains_iff _ _).mp hs
  omega

theorem mclosure_valid {m : MNfa} (hm : MWF m) {p : Nat × Nfa} (hp : p ∈ m) {s : Nat}
    (hs : p.2.contains s = true) : m.epsClosure s = p.2.epsClosure s := by
  simp [MNfa.epsClosure, valid_ne_zero hm ⟨p, hp, hs⟩, findNfa_eq hm hp hs]

theorem mem_mclosure_valid {m : MNfa} (hm : MWF m) {p : Nat × Nfa} (hp : p ∈ m) {s : Nat}
    (hs : p.2.contains s = true) (y : Nat) : y ∈ m.epsClosure s ↔ p.2.EpsReach s y := by
  rw [mclosure_valid hm hp hs, mem_epsClosure _ (hm.wf p hp) _ hs]

theorem mem_mclosure_zero {m : MNfa} (hm : MWF m) (y : Nat) :
    y ∈ m.epsClosure 0 ↔ y = 0 ∨ ∃ p ∈ m, p.2.EpsReach p.2.start y := by
  simp only [MNfa.epsClosure, if_true, mem_normNat, List.mem_cons, List.mem_flatMap]
  exact or_congr_right (exists_congr fun p => and_congr_right fun hp =>
    mem_epsClosure _ (hm.wf p hp) _ (hm.wf p hp).start_in y)

theorem transOf_zero (m : MNfa) (x : Nat × Nat) :
    x ∈ m.transOf 0 ↔ ∃ p ∈ m, x ∈ (p.2.state p.2.start).trans := by
  rw [MNfa.transOf, if_pos rfl, List.mem_flatMap]

theorem transOf_valid {m : MNfa} (hm : MWF m) {p : Nat × Nfa} (hp : p ∈ m) {s : Nat}
    (hs : p.2.contains s = true) : m.transOf s = (p.2.state s).trans := by
  simp [MNfa.transOf, valid_ne_zero hm ⟨p, hp, hs⟩, findNfa_eq hm hp hs]

theorem mtr_valid {m : MNfa} (hm : MWF m) {p : Nat × Nfa} (hp : p ∈ m) {q : Nat} (hq : p.2.contains q = true)
    (cc t : Nat) : (cc, t) ∈ m.matchTransitions (m.epsClosure q) ↔ p.2.EdgeC q cc t := by
  simp only [mem_matchTransitions, mem_mclosure_valid hm hp hq]
  constructor
  · rintro ⟨s, hr, hx⟩
    have hsc := epsReach_contains _ (hm.wf p hp) _ _ hq hr
    exact ⟨s, hr, hsc, transOf_valid hm hp hsc ▸ hx⟩
  · rintro ⟨s, hr, hsc, hx⟩
    exact ⟨s, hr, (transOf_valid hm hp hsc).symm ▸ hx⟩

theorem mtr_zero {m : MNfa} (hm : MWF m) (cc t : Nat) :
    (cc, t) ∈ m.matchTransitions (m.epsClosure 0) ↔ ∃ p ∈ m, p.2.EdgeC p.2.start cc t := by
  simp only [mem_matchTransitions, mem_mclosure_zero hm]
  constructor
  · rintro ⟨s, rfl | ⟨p, hp, hr⟩, hx⟩
    · obtain ⟨p, hp, hxp⟩ := (transOf_zero m _).mp hx
      exact ⟨p, hp, p.2.start, .refl _, (hm.wf p hp).start_in, hxp⟩
    · have hsc := epsReach_contains _ (hm.wf p hp) _ _ (hm.wf p hp).start_in hr
      exact ⟨p, hp, s, hr, hsc, transOf_valid hm hp hsc ▸ hx⟩
  · rintro ⟨p, hp, s, hr, hsc, hx⟩
    exact ⟨s, .inr ⟨p, hp, hr⟩, (transOf_valid hm hp hsc).symm ▸ hx⟩

/-! The components of `m.gen` are rewritten with the following equations: left to unification, the model
functions would be unfolded first. -/

theorem mgen_clos (m : MNfa) (q : Nat) : m.gen.clos q = m.epsClosure q := rfl
theorem mgen_tr (m : MNfa) (cl : List Nat) : m.gen.tr cl = m.matchTransitions cl := rfl
theorem mgen_accf (m : MNfa) (cl : List Nat) : m.gen.accf cl = m.accepting cl := rfl
theorem mgen_tidf (m : MNfa) (q : Nat) : m.gen.tidf q = m.tidOf q := rfl

theorem mgen_ok {m : MNfa} (hm : MWF m) : GOK m.gen 0 m.Valid (totalStates m) := by
  refine ⟨?_, fun t ht => valid_lt hm ht, Nat.lt_of_lt_of_le Nat.one_pos (Nat.le_add_right 1 _)⟩
  intro cl hcl x hx
  rw [mgen_tr] at hx
  rcases hcl with rfl | ⟨q, ⟨p, hp, hq⟩, rfl⟩
  · obtain ⟨p, hp, s, _, hsc, hxs⟩ := (mtr_zero hm x.1 x.2).mp hx
    exact ⟨p, hp, (hm.wf p hp).trans_in s hsc x hxs⟩
  · obtain ⟨s, _, hsc, hxs⟩ := (mtr_valid hm hp hq x.1 x.2).mp hx
    exact ⟨p, hp, (hm.wf p hp).trans_in s hsc x hxs⟩

theorem pat_unique {m : MNfa} (hm : MWF m) {p p' : Nat × Nfa} (hp : p ∈ m) (hp' : p' ∈ m) {s : Nat}
    (hs : p.2.contains s = true) (hs' : p'.2.contains s = true) : p = p' :=
  Option.some.inj ((findNfa_eq hm hp hs).symm.trans (findNfa_eq hm hp' hs'))

theorem not_contains_zero {m : MNfa} (hm : MWF m) {p : Nat × Nfa} (hp : p ∈ m) : p.2.contains 0 = false :=
  Bool.eq_false_iff.mpr fun h => valid_ne_zero hm ⟨p, hp, h⟩ rfl

theorem tidOf_valid {m : MNfa} (hm : MWF m) {p : Nat × Nfa} (hp : p ∈ m) {t : Nat} (ht : p.2.contains t = true) :
    m.tidOf t = p.1 := by
  simp [MNfa.tidOf, findNfa_eq hm hp ht]

theorem mgen_step_valid {m : MNfa} (hm : MWF m) {p : Nat × Nfa} (hp : p ∈ m) (cm : Nat → Nat → Bool) {q : Nat}
    (hq : p.2.contains q = true) (c t : Nat) : m.gen.Step cm q c t ↔ p.2.StepC cm q c t := by
  rw [stepC_iff_edgeC, Gen.Step, mgen_tr, mgen_clos]
  exact exists_congr fun cc => and_congr_left fun _ => mtr_valid hm hp hq cc t

theorem mgen_step_zero {m : MNfa} (hm : MWF m) (cm : Nat → Nat → Bool) (c t : Nat) :
    m.gen.Step cm 0 c t ↔ ∃ p ∈ m, p.2.StepC cm p.2.start c t := by
  rw [Gen.Step, mgen_tr, mgen_clos]
  constructor
  · rintro ⟨cc, he, hcm⟩
    obtain ⟨p, hp, he⟩ := (mtr_zero hm cc t).mp he
    exact ⟨p, hp, stepC_iff_edgeC.mpr ⟨cc, he, hcm⟩⟩
  · rintro ⟨p, hp, hst⟩
    obtain ⟨cc, he, hcm⟩ := stepC_iff_edgeC.mp hst
    exact ⟨cc, (mtr_zero hm cc t).mpr ⟨p, hp, he⟩, hcm⟩

theorem maccepting_valid {m : MNfa} (hm : MWF m) {p : Nat × Nfa} (hp : p ∈ m) {q : Nat}
    (hq : p.2.contains q = true) : m.accepting (m.epsClosure q) = true ↔ p.2.EpsReach q p.2.fin := by
  simp only [MNfa.accepting, List.any_eq_true, beq_iff_eq, mem_mclosure_valid hm hp hq]
  constructor
  · rintro ⟨s, hr, p2, hp2, hfin⟩
    -- the end state found lies in `p`, so it is the end state of `p`
    cases pat_unique hm hp hp2 (epsReach_contains _ (hm.wf p hp) _ _ hq hr) (hfin ▸ (hm.wf p2 hp2).fin_in)
    exact hfin ▸ hr
  · exact fun hr => ⟨p.2.fin, hr, p, hp, rfl⟩

theorem mgen_tid {m : MNfa} (hm : MWF m) (q q' : Nat) (hq : m.Valid q) (hq' : m.Valid q')
    (he : m.gen.clos q = m.gen.clos q') : m.gen.tidf q = m.gen.tidf q' := by
  obtain ⟨p, hp, hqc⟩ := hq
  obtain ⟨p', hp', hqc'⟩ := hq'
  rw [mgen_clos, mgen_clos] at he
  -- `q` lies in its own closure, hence in the pattern of `q'`
  have hin : q ∈ m.epsClosure q' := he ▸ (mem_mclosure_valid hm hp hqc q).mpr (.refl q)
  have hqp' := epsReach_contains _ (hm.wf p' hp') _ _ hqc' ((mem_mclosure_valid hm hp' hqc' q).mp hin)
  rw [mgen_tidf, mgen_tidf, tidOf_valid hm hp' hqp', tidOf_valid hm hp' hqc']

theorem mgen_start {m : MNfa} (hm : MWF m) (q : Nat) (hq : m.Valid q) : m.gen.clos q ≠ m.gen.clos 0 := by
  obtain ⟨p, hp, hqc⟩ := hq
  rw [mgen_clos, mgen_clos]
  intro he
  have h0 : 0 ∈ m.epsClosure q := he ▸ (mem_mclosure_zero hm 0).mpr (.inl rfl)
  have := epsReach_contains _ (hm.wf p hp) _ _ hqc ((mem_mclosure_valid hm hp hqc 0).mp h0)
  rw [not_contains_zero hm hp] at this
  cases this

/-- the words that lead from state `q` of the multi-pattern NFA to acceptance for `tid`: from state 0 those
    that a pattern with that terminal accepts, from a state of a pattern those that lead to its end state -/
def MNfa.Lang (m : MNfa) (cm : Nat → Nat → Bool) (q : Nat) (w : List Nat) (tid : Nat) : Prop :=
  ∃ p ∈ m, p.1 = tid ∧ ((q = 0 ∧ p.2.Accepts cm w) ∨ (p.2.contains q = true ∧ p.2.Path cm q w p.2.fin))

theorem lang_zero {m : MNfa} (hm : MWF m) (cm : Nat → Nat → Bool) (w : List Nat) (tid : Nat) :
    m.Lang cm 0 w tid ↔ ∃ p ∈ m, p.1 = tid ∧ p.2.Accepts cm w := by
  constructor
  · rintro ⟨p, hp, ht, ⟨_, h⟩ | ⟨h0, _⟩⟩
    · exact ⟨p, hp, ht, h⟩
    · rw [not_contains_zero hm hp] at h0; cases h0
  · rintro ⟨p, hp, ht, h⟩
    exact ⟨p, hp, ht, .inl ⟨rfl, h⟩⟩

theorem lang_valid {m : MNfa} (hm : MWF m) {p : Nat × Nfa} (hp : p ∈ m) (cm : Nat → Nat → Bool) {q : Nat}
    (hq : p.2.contains q = true) (w : List Nat) (tid : Nat) :
    m.Lang cm q w tid ↔ p.1 = tid ∧ p.2.Path cm q w p.2.fin := by
  constructor
  · rintro ⟨p', hp', ht, ⟨rfl, _⟩ | ⟨hq', h⟩⟩
    · rw [not_contains_zero hm hp] at hq; cases hq
    · cases pat_unique hm hp hp' hq hq'
      exact ⟨ht, h⟩
  · rintro ⟨ht, h⟩
    exact ⟨p, hp, ht, .inr ⟨hq, h⟩⟩

theorem mgen_sem {m : MNfa} (hm : MWF m) (cm : Nat → Nat → Bool) : GSem m.gen 0 m.Valid cm (m.Lang cm) := by
  refine ⟨fun q hq tid => ?_, fun q hq c w tid => ?_, mgen_tid hm, mgen_start hm⟩
  · obtain ⟨p, hp, hqc⟩ := hq
    rw [mgen_accf, mgen_clos, mgen_tidf, lang_valid hm hp cm hqc, path_nil_iff_epsReach,
      maccepting_valid hm hp hqc, tidOf_valid hm hp hqc, and_comm]
  · -- the target of a step of `p` lies in `p`, so `Lang` there is given by `lang_valid`
    have htgt : ∀ {p : Nat × Nfa} {q t : Nat}, p ∈ m → p.2.StepC cm q c t →
        (m.Lang cm t w tid ↔ p.1 = tid ∧ p.2.Path cm t w p.2.fin) :=
      fun hp hst => lang_valid hm hp cm (stepC_contains _ (hm.wf _ hp) cm _ _ _ hst) w tid
    rcases hq with rfl | ⟨p, hp, hqc⟩
    · simp only [lang_zero hm, mgen_step_zero hm]
      constructor
      · rintro ⟨p, hp, ht, hacc⟩
        obtain ⟨t, hst, hpath⟩ := (path_cons_iff _ cm _ _ _ _).mp hacc
        exact ⟨t, ⟨p, hp, hst⟩, (htgt hp hst).mpr ⟨ht, hpath⟩⟩
      · rintro ⟨t, ⟨p, hp, hst⟩, hl⟩
        obtain ⟨ht, hpath⟩ := (htgt hp hst).mp hl
        exact ⟨p, hp, ht, (path_cons_iff _ cm _ _ _ _).mpr ⟨t, hst, hpath⟩⟩
    · simp only [lang_valid hm hp cm hqc, path_cons_iff, mgen_step_valid hm hp cm hqc]
      constructor
      · rintro ⟨ht, t, hst, hpath⟩
        exact ⟨t, hst, (htgt hp hst).mpr ⟨ht, hpath⟩⟩
      · rintro ⟨t, hst, hl⟩
        obtain ⟨ht, hpath⟩ := (htgt hp hst).mp hl
        exact ⟨ht, t, hst, hpath⟩

theorem buildDfa_correct {m : MNfa} (hm : MWF m) (prio : List Nat) (cm : Nat → Nat → Bool) (w : List Nat)
    (tid : Nat) : acceptsTid (buildDfa m prio) cm w tid ↔ w ≠ [] ∧ ∃ p ∈ m, p.1 = tid ∧ p.2.Accepts cm w := by
  obtain ⟨h, hd⟩ := genLoop_final (mgen_ok hm) (totalStates m + 1) (Nat.le_refl _)
  rw [← lang_zero hm]
  exact gen_correct (mgen_ok hm) (mgen_sem hm cm) h hd prio w tid

theorem buildDfa_proper {m : MNfa} (hm : MWF m) (prio : List Nat) : (buildDfa m prio).Proper :=
  gen_dfa_proper (mgen_start hm) (genLoop_final (mgen_ok hm) (totalStates m + 1) (Nat.le_refl _)).1 prio

/-! `reach_sound` and `reach_complete` speak of the runs with the notions of the generic construction spelt out for
the multi-pattern NFA: `BInv`, `MDone`, `MAllDone` are `GInv`, `Done`, `AllDone` at `m.gen`, `Rep` and `RepA` are
`GRep` and `GRepA` with the pattern of the state named. They are statements of their own; `buildDfa_correct`
does not go through them. -/

structure BInv (m : MNfa) (b : BuildSt) : Prop where
  ids : ∀ (j : Nat) (e : List Nat × Nat), b.map[j]? = some e → e.2 = j
  nodup : (b.map.map Prod.fst).Nodup
  zero : b.map[0]? = some (m.epsClosure 0, 0)
  reps : ∀ (j : Nat) (e : List Nat × Nat), b.map[j]? = some e → 1 ≤ j → ∃ t, m.Valid t ∧ e.1 = m.epsClosure t
  tsound : ∀ x ∈ b.trans, ∃ cli t, b.map[x.1]? = some (cli, x.1) ∧ (x.2.1, t) ∈ m.matchTransitions cli ∧
    b.map[x.2.2]? = some (m.epsClosure t, x.2.2)
  asound : ∀ x ∈ b.acc, ∃ t, m.Valid t ∧ b.map[x.1]? = some (m.epsClosure t, x.1) ∧
    m.accepting (m.epsClosure t) = true ∧ x.2 = m.tidOf t

def MDone (m : MNfa) (b : BuildSt) (src : Nat) (x : Nat × Nat) : Prop :=
  ∃ j, b.map[j]? = some (m.epsClosure x.2, j) ∧ (src, x.1, j) ∈ b.trans ∧
    (m.accepting (m.epsClosure x.2) = true → (j, m.tidOf x.2) ∈ b.acc)

def MAllDone (m : MNfa) (b : BuildSt) (i : Nat) : Prop :=
  ∀ cli, b.map[i]? = some (cli, i) → ∀ x ∈ m.matchTransitions cli, MDone m b i x

theorem binv_iff {m : MNfa} {b : BuildSt} : BInv m b ↔ GInv m.gen 0 m.Valid b :=
  ⟨fun h => ⟨h.ids, h.nodup, h.zero, h.reps, h.tsound, h.asound⟩,
   fun h => ⟨h.ids, h.nodup, h.zero, h.reps, h.tsound, h.asound⟩⟩

theorem mdone_iff {m : MNfa} {b : BuildSt} {src : Nat} {x : Nat × Nat} : MDone m b src x ↔ Done m.gen b src x :=
  Iff.rfl

theorem mallDone_iff {m : MNfa} {b : BuildSt} {i : Nat} : MAllDone m b i ↔ AllDone m.gen b i := Iff.rfl

/-- state `j` is the ε-closure of state `q` of the pattern NFA `p` -/
def Rep (m : MNfa) (b : BuildSt) (j : Nat) (p : Nat × Nfa) (q : Nat) : Prop :=
  p ∈ m ∧ p.2.contains q = true ∧ b.map[j]? = some (p.2.epsClosure q, j)

/-- `Rep` together with the acceptance mark of the closure -/
def RepA (m : MNfa) (b : BuildSt) (j : Nat) (p : Nat × Nfa) (q : Nat) : Prop :=
  Rep m b j p q ∧ (m.accepting (p.2.epsClosure q) = true → (j, p.1) ∈ b.acc)

theorem RepA.grepA {m : MNfa} (hm : MWF m) {b : BuildSt} {j : Nat} {p : Nat × Nfa} {q : Nat}
    (h : RepA m b j p q) : GRepA m.gen m.Valid b j q := by
  obtain ⟨⟨hp, hq, hmap⟩, hmark⟩ := h
  refine ⟨⟨p, hp, hq⟩, ?_⟩
  rw [mgen_clos, mgen_accf, mgen_tidf, mclosure_valid hm hp hq, tidOf_valid hm hp hq]
  exact ⟨hmap, hmark⟩

theorem reach_sound {m : MNfa} (hm : MWF m) {b : BuildSt} (h : BInv m b) (prio : List Nat)
    (cm : Nat → Nat → Bool) (w : List Nat) : ∀ (S : List Nat) (u : List Nat),
    (∀ j ∈ S, ∃ p q, Rep m b j p q ∧ p.2.Path cm p.2.start u q) →
    ∀ j' ∈ reach (mkDfa b prio) cm S w, ∃ p q, Rep m b j' p q ∧ p.2.Path cm p.2.start (u ++ w) q := by
  induction w with
  | nil => intro S u hS j' hj'; rw [List.append_nil]; exact hS j' hj'
  | cons c w ih =>
    intro S u hS j' hj'
    refine List.append_cons u c w ▸ ih _ (u ++ [c]) (fun j1 hj1 => ?_) j' hj'
    obtain ⟨j, hj, cc, hout, hcm⟩ := mem_step_iff.mp hj1
    obtain ⟨p, q, ⟨hp, hq, hmap⟩, hpath⟩ := hS j hj
    obtain ⟨cli, t, h1, h2, h3⟩ := h.tsound _ (((binv_iff.mp h).outs prio j cc j1).mp hout)
    cases hmap.symm.trans h1
    rw [← mclosure_valid hm hp hq] at h2
    have hst : p.2.StepC cm q c t := stepC_iff_edgeC.mpr ⟨cc, (mtr_valid hm hp hq cc t).mp h2, hcm⟩
    have htc := stepC_contains _ (hm.wf p hp) cm _ _ _ hst
    exact ⟨p, t, ⟨hp, htc, mclosure_valid hm hp htc ▸ h3⟩,
      hpath.trans ((path_cons_iff ..).mpr ⟨t, hst, .nil t⟩)⟩

theorem reach_complete {m : MNfa} (hm : MWF m) {b : BuildSt} (h : BInv m b)
    (hd : ∀ i, i < b.map.length → MAllDone m b i) (prio : List Nat) (cm : Nat → Nat → Bool) (w : List Nat) :
    ∀ (S : List Nat) (j : Nat) (p : Nat × Nfa) (q : Nat), j ∈ S → RepA m b j p q →
    p.2.Path cm q w p.2.fin →
    ∃ j' ∈ reach (mkDfa b prio) cm S w, (mkDfa b prio).isEnd j' = true ∧ (mkDfa b prio).tidOf j' = p.1 := by
  intro S j p q hj hr hpath
  exact (exists_reach_iff w).mpr ⟨j, hj,
    (glang_iff (mgen_ok hm) (mgen_sem hm cm) (binv_iff.mp h) hd prio p.1 w j q (hr.grepA hm)).mpr
      ((lang_valid hm hr.1.1 cm hr.1.2.1 w p.1).mpr ⟨rfl, hpath⟩)⟩

end Scnr

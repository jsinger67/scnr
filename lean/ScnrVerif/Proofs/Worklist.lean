import ScnrVerif.Model.Compile
import ScnrVerif.Proofs.Basics
/-!
# The worklist of the closure constructions, generically (track A)

`genLoop` (Model/Compile.lean) is the loop shared by `impl From<MultiPatternNfa> for CompiledDfa`
and `impl From<Nfa> for CompiledDfa`. `genLoop_spec`: the fuel suffices (pigeonhole on the closures) and
at the end every target of every registered state has been handled.
-/
namespace Scnr

/-- invariant of the table `b`; `q0` is the initial NFA state, `V` says which states may occur as targets -/
structure GInv (g : Gen) (q0 : Nat) (V : Nat → Prop) (b : BuildSt) : Prop where
  ids : ∀ (j : Nat) (e : List Nat × Nat), b.map[j]? = some e → e.2 = j
  nodup : (b.map.map Prod.fst).Nodup
  zero : b.map[0]? = some (g.clos q0, 0)
  reps : ∀ (j : Nat) (e : List Nat × Nat), b.map[j]? = some e → 1 ≤ j → ∃ t, V t ∧ e.1 = g.clos t
  tsound : ∀ x ∈ b.trans, ∃ cli t, b.map[x.1]? = some (cli, x.1) ∧ (x.2.1, t) ∈ g.tr cli ∧
    b.map[x.2.2]? = some (g.clos t, x.2.2)
  asound : ∀ x ∈ b.acc, ∃ t, V t ∧ b.map[x.1]? = some (g.clos t, x.1) ∧
    g.accf (g.clos t) = true ∧ x.2 = g.tidf t

variable {g : Gen} {q0 : Nat} {V : Nat → Prop} {b : BuildSt} {src : Nat} {x : Nat × Nat}

theorem GInv.closureOf (h : GInv g q0 V b) (i : Nat) (cl : List Nat)
    (hi : b.map[i]? = some (cl, i)) : b.closureOf i = cl := by
  obtain ⟨hil, he⟩ := List.getElem?_eq_some_iff.mp hi
  have : b.map.find? (fun p => p.2 == i) = some (cl, i) :=
    List.find?_eq_some_iff_getElem.mpr ⟨beq_iff_eq.mpr rfl, i, hil, he, fun j hj => by
      rw [h.ids j _ (List.getElem?_eq_getElem (Nat.lt_trans hj hil)), Bool.not_eq_true', beq_eq_false_iff_ne]
      exact Nat.ne_of_lt hj⟩
  rw [BuildSt.closureOf, this]
  rfl

theorem GInv.entry (h : GInv g q0 V b) {i : Nat} (hi : i < b.map.length) : ∃ cl, b.map[i]? = some (cl, i) := by
  have hs : b.map[i]? = some b.map[i] := List.getElem?_eq_getElem hi
  exact ⟨b.map[i].1, hs.trans (congrArg some (Prod.ext rfl (h.ids i _ hs)))⟩

theorem GInv.pos (h : GInv g q0 V b) : 0 < b.map.length :=
  (List.getElem?_eq_some_iff.mp h.zero).1

theorem GInv.trans_lt (h : GInv g q0 V b) (x : Nat × Nat × Nat) (hx : x ∈ b.trans) :
    x.1 < b.map.length ∧ x.2.2 < b.map.length := by
  obtain ⟨c, t, h1, _, h3⟩ := h.tsound x hx
  exact ⟨(List.getElem?_eq_some_iff.mp h1).1, (List.getElem?_eq_some_iff.mp h3).1⟩

theorem GInv.acc_lt (h : GInv g q0 V b) (x : Nat × Nat) (hx : x ∈ b.acc) : x.1 < b.map.length := by
  obtain ⟨t, _, h1, _⟩ := h.asound x hx
  exact (List.getElem?_eq_some_iff.mp h1).1

theorem GInv.index_inj (h : GInv g q0 V b) {i j : Nat} {e e' : List Nat × Nat} (hi : b.map[i]? = some e)
    (hj : b.map[j]? = some e') (hc : e.1 = e'.1) : i = j := by
  rw [← h.ids i e hi, ← h.ids j e' hj,
    inj_on_of_nodup_map h.nodup e (List.mem_of_getElem? hi) e' (List.mem_of_getElem? hj) hc]

theorem lookup_some (h : GInv g q0 V b) (cl : List Nat) (id : Nat) :
    b.lookup cl = some id ↔ b.map[id]? = some (cl, id) := by
  simp only [BuildSt.lookup, Option.map_eq_some_iff]
  constructor
  · rintro ⟨e, he, rfl⟩
    obtain ⟨j, hj⟩ := List.getElem?_of_mem (List.mem_of_find?_eq_some he)
    have hcl := List.find?_some he
    have hid := h.ids j e hj
    rw [hid]
    exact hj.trans (congrArg some (Prod.ext (beq_iff_eq.mp hcl) hid))
  · intro hid
    obtain ⟨hil, he⟩ := List.getElem?_eq_some_iff.mp hid
    refine ⟨(cl, id), List.find?_eq_some_iff_getElem.mpr ⟨beq_iff_eq.mpr rfl, id, hil, he, fun j hj => ?_⟩, rfl⟩
    rw [Bool.not_eq_true', beq_eq_false_iff_ne]
    intro hc
    exact Nat.ne_of_lt hj (h.index_inj (List.getElem?_eq_getElem (Nat.lt_trans hj hil)) hid hc)

theorem lookup_none (cl : List Nat) (h : b.lookup cl = none) : cl ∉ b.map.map Prod.fst := by
  simp only [BuildSt.lookup, Option.map_eq_none_iff] at h
  intro hm
  obtain ⟨e, he, hcl⟩ := List.mem_map.mp hm
  have := List.find?_eq_none.mp h e he
  simp [hcl] at this

/-- `b'` extends `b`: the table grows at the end, nothing is removed -/
structure BExt (b b' : BuildSt) : Prop where
  map : ∃ e, b'.map = b.map ++ e
  trans : ∀ x ∈ b.trans, x ∈ b'.trans
  acc : ∀ x ∈ b.acc, x ∈ b'.acc

theorem BExt.refl (b : BuildSt) : BExt b b := ⟨⟨[], by simp⟩, fun _ h => h, fun _ h => h⟩

theorem BExt.comp {a b c : BuildSt} (h1 : BExt a b) (h2 : BExt b c) : BExt a c := by
  obtain ⟨e1, he1⟩ := h1.map
  obtain ⟨e2, he2⟩ := h2.map
  exact ⟨⟨e1 ++ e2, by rw [he2, he1, List.append_assoc]⟩, fun x h => h2.trans x (h1.trans x h),
    fun x h => h2.acc x (h1.acc x h)⟩

theorem BExt.get {b b' : BuildSt} (h : BExt b b') {i : Nat} {e : List Nat × Nat} (hi : b.map[i]? = some e) :
    b'.map[i]? = some e := by
  obtain ⟨r, hr⟩ := h.map
  rw [hr]; exact getElem?_append_some hi

/-- the target `x` of state `src` has been handled -/
def Done (g : Gen) (b : BuildSt) (src : Nat) (x : Nat × Nat) : Prop :=
  ∃ j, b.map[j]? = some (g.clos x.2, j) ∧ (src, x.1, j) ∈ b.trans ∧
    (g.accf (g.clos x.2) = true → (j, g.tidf x.2) ∈ b.acc)

theorem Done.mono {b' : BuildSt} (h : BExt b b') (hd : Done g b src x) : Done g b' src x := by
  obtain ⟨j, h1, h2, h3⟩ := hd
  exact ⟨j, h.get h1, h.trans _ h2, fun ha => h.acc _ (h3 ha)⟩

theorem mem_genStep_trans (y : Nat × Nat × Nat) :
    y ∈ (genStep g src b x).trans ↔ y ∈ b.trans ∨ y = (src, x.1, b.idFor (g.clos x.2)) := by
  simp only [genStep]
  split
  · rename_i hc
    exact ⟨.inl, fun h => h.elim id fun h => h ▸ List.contains_iff_mem.mp hc⟩
  · rw [List.mem_append, List.mem_singleton]

theorem mem_genStep_acc (y : Nat × Nat) :
    y ∈ (genStep g src b x).acc ↔
      y ∈ b.acc ∨ (g.accf (g.clos x.2) = true ∧ y = (b.idFor (g.clos x.2), g.tidf x.2)) := by
  simp only [genStep]
  split
  · rename_i hc
    rw [Bool.and_eq_true] at hc
    rw [List.mem_append, List.mem_singleton, and_iff_right hc.1]
  · rename_i hc
    refine ⟨.inl, fun h => h.elim id fun ⟨h1, h2⟩ => ?_⟩
    rw [h1, Bool.true_and, Bool.not_eq_true', Bool.not_eq_false] at hc
    exact h2 ▸ List.contains_iff_mem.mp hc

theorem genStep_ext (g : Gen) (src : Nat) (b : BuildSt) (x : Nat × Nat) : BExt b (genStep g src b x) := by
  refine ⟨?_, fun y hy => (mem_genStep_trans y).mpr (.inl hy), fun y hy => (mem_genStep_acc y).mpr (.inl hy)⟩
  simp only [genStep]
  split
  · exact ⟨[], (List.append_nil _).symm⟩
  · exact ⟨_, rfl⟩

theorem genStep_map (h : GInv g q0 V b) (hv : V x.2) :
    (genStep g src b x).map[b.idFor (g.clos x.2)]? = some (g.clos x.2, b.idFor (g.clos x.2)) ∧
    (∀ (j : Nat) (e : List Nat × Nat), (genStep g src b x).map[j]? = some e → e.2 = j) ∧
    ((genStep g src b x).map.map Prod.fst).Nodup ∧
    (∀ (j : Nat) (e : List Nat × Nat), (genStep g src b x).map[j]? = some e → 1 ≤ j → ∃ t, V t ∧ e.1 = g.clos t) := by
  cases hl : b.lookup (g.clos x.2) with
  | some id =>
    have hmap : (genStep g src b x).map = b.map := by simp only [genStep, hl, Option.isSome_some, if_true]
    have hidf : b.idFor (g.clos x.2) = id := by simp only [BuildSt.idFor, hl, Option.getD_some]
    rw [hmap, hidf]
    exact ⟨(lookup_some h _ _).mp hl, h.ids, h.nodup, h.reps⟩
  | none =>
    have hmap : (genStep g src b x).map = b.map ++ [(g.clos x.2, b.map.length)] := by
      simp only [genStep, hl, Option.isSome_none, Bool.false_eq_true, if_false]
    have hidf : b.idFor (g.clos x.2) = b.map.length := by simp only [BuildSt.idFor, hl, Option.getD_none]
    rw [hmap, hidf]
    refine ⟨List.getElem?_concat_length, ?_, ?_, ?_⟩
    · intro j e he
      rcases getElem?_concat_some he with he | ⟨rfl, rfl⟩
      · exact h.ids j e he
      · rfl
    · rw [List.map_append]
      exact nodup_concat h.nodup (lookup_none _ hl)
    · intro j e he hj1
      rcases getElem?_concat_some he with he | ⟨rfl, rfl⟩
      · exact h.reps j e he hj1
      · exact ⟨x.2, hv, rfl⟩

theorem genStep_spec (h : GInv g q0 V b) {cli : List Nat}
    (hsrc : b.map[src]? = some (cli, src)) (hx : x ∈ g.tr cli)
    (hv : V x.2) : GInv g q0 V (genStep g src b x) ∧ Done g (genStep g src b x) src x := by
  have hext := genStep_ext g src b x
  obtain ⟨hnew, hids, hnd, hreps⟩ := genStep_map (src := src) h hv
  refine ⟨⟨hids, hnd, hext.get h.zero, hreps, ?_, ?_⟩, _, hnew, (mem_genStep_trans _).mpr (.inr rfl),
    fun hacc => (mem_genStep_acc _).mpr (.inr ⟨hacc, rfl⟩)⟩
  · intro y hy
    rcases (mem_genStep_trans y).mp hy with hy | rfl
    · obtain ⟨c, t, h1, h2, h3⟩ := h.tsound y hy
      exact ⟨c, t, hext.get h1, h2, hext.get h3⟩
    · exact ⟨cli, x.2, hext.get hsrc, hx, hnew⟩
  · intro y hy
    rcases (mem_genStep_acc y).mp hy with hy | ⟨hacc, rfl⟩
    · obtain ⟨t, h1, h2, h3⟩ := h.asound y hy
      exact ⟨t, h1, hext.get h2, h3⟩
    · exact ⟨x.2, hv, hnew, hacc, rfl⟩

theorem fold_spec {cli : List Nat} (L : List (Nat × Nat)) :
    ∀ b : BuildSt, GInv g q0 V b → b.map[src]? = some (cli, src) →
      (∀ x ∈ L, x ∈ g.tr cli ∧ V x.2) →
      GInv g q0 V (L.foldl (genStep g src) b) ∧ BExt b (L.foldl (genStep g src) b) ∧
        ∀ x ∈ L, Done g (L.foldl (genStep g src) b) src x := by
  induction L with
  | nil => intro b h _ _; exact ⟨h, BExt.refl b, fun _ hx => by cases hx⟩
  | cons x r ih =>
    intro b h hsrc hL
    have hx := hL x (List.mem_cons_self)
    obtain ⟨h1, hd1⟩ := genStep_spec h hsrc hx.1 hx.2
    have hext1 := genStep_ext g src b x
    obtain ⟨h2, hext2, hd2⟩ := ih (genStep g src b x) h1 (hext1.get hsrc)
      (fun y hy => hL y (List.mem_cons_of_mem _ hy))
    refine ⟨h2, hext1.comp hext2, ?_⟩
    intro y hy
    rcases List.mem_cons.mp hy with rfl | hy
    · exact hd1.mono hext2
    · exact hd2 y hy

def AllDone (g : Gen) (b : BuildSt) (i : Nat) : Prop :=
  ∀ cli, b.map[i]? = some (cli, i) → ∀ x ∈ g.tr cli, Done g b i x

theorem AllDone.mono {b' : BuildSt} (h : BExt b b') {i : Nat} (hi : i < b.map.length)
    (hd : AllDone g b i) : AllDone g b' i := by
  intro cli hcli x hx
  obtain ⟨e, he⟩ := h.map
  rw [he, List.getElem?_append_left hi] at hcli
  exact (hd cli hcli x hx).mono h

/-- what the construction needs from its parameters: targets of the match transitions of a registered
    closure are valid states, valid states (and the initial one) are below the bound `N` -/
structure GOK (g : Gen) (q0 : Nat) (V : Nat → Prop) (N : Nat) : Prop where
  target : ∀ cl, (cl = g.clos q0 ∨ ∃ t, V t ∧ cl = g.clos t) → ∀ x ∈ g.tr cl, V x.2
  bound : ∀ t, V t → t < N
  q0lt : q0 < N

theorem GInv.cls (h : GInv g q0 V b) {i : Nat} {cl : List Nat}
    (hi : b.map[i]? = some (cl, i)) : cl = g.clos q0 ∨ ∃ t, V t ∧ cl = g.clos t := by
  rcases Nat.eq_zero_or_pos i with rfl | hpos
  · exact .inl (congrArg Prod.fst (Option.some.inj (hi.symm.trans h.zero)))
  · exact .inr (h.reps i _ hi hpos)

theorem GInv.length_le {N : Nat} (hok : GOK g q0 V N)
    (h : GInv g q0 V b) : b.map.length ≤ N := by
  rw [← List.length_map (f := Prod.fst)]
  refine nodup_length_le_of_image (b.map.map Prod.fst) g.clos N h.nodup fun cl hcl => ?_
  obtain ⟨e, he, rfl⟩ := List.mem_map.mp hcl
  obtain ⟨j, hj⟩ := List.getElem?_of_mem he
  rcases h.cls (hj.trans (congrArg some (Prod.ext rfl (h.ids j e hj)))) with hc | ⟨t, ht, hc⟩
  · exact ⟨q0, hok.q0lt, hc.symm⟩
  · exact ⟨t, hok.bound t ht, hc.symm⟩

theorem genLoop_spec {g : Gen} {q0 : Nat} {V : Nat → Prop} {N : Nat} (hok : GOK g q0 V N) :
    ∀ (fuel cur : Nat) (b : BuildSt), GInv g q0 V b →
    (∀ i, i < cur → i < b.map.length → AllDone g b i) → N + 1 ≤ fuel + cur →
    GInv g q0 V (genLoop g fuel cur b) ∧ BExt b (genLoop g fuel cur b) ∧
      ∀ i, i < (genLoop g fuel cur b).map.length → AllDone g (genLoop g fuel cur b) i := by
  intro fuel cur b
  fun_induction genLoop g fuel cur b with
  | case1 cur b =>
    intro h hd hf
    -- no fuel left: `cur` is beyond the table, whose length is at most `N`
    have hle : b.map.length ≤ cur :=
      Nat.le_trans (h.length_le hok) (Nat.le_of_succ_le (Nat.zero_add cur ▸ hf))
    exact ⟨h, BExt.refl b, fun i hi => hd i (Nat.lt_of_lt_of_le hi hle) hi⟩
  | case2 fuel cur b hcur ih =>
    intro h hd hf
    obtain ⟨cli, hcli⟩ := h.entry hcur
    rw [h.closureOf cur cli hcli] at ih ⊢
    obtain ⟨h1, hext1, hd1⟩ := fold_spec (g.tr cli) b h hcli
      (fun x hx => ⟨hx, hok.target cli (h.cls hcli) x hx⟩)
    obtain ⟨h2, hext2, hd2⟩ := ih h1 (fun i hi _ => by
      rcases Nat.lt_succ_iff_lt_or_eq.mp hi with hlt | rfl
      · exact (hd i hlt (Nat.lt_trans hlt hcur)).mono hext1 (Nat.lt_trans hlt hcur)
      · intro c hc x hx
        cases (hext1.get hcli).symm.trans hc
        exact hd1 x hx) (Nat.add_right_comm fuel 1 cur ▸ hf)
    exact ⟨h2, hext1.comp hext2, hd2⟩
  | case3 fuel cur b hcur =>
    intro h hd _
    exact ⟨h, BExt.refl b, fun i hi => hd i (Nat.lt_of_lt_of_le hi (Nat.not_lt.mp hcur)) hi⟩

def initSt (g : Gen) (q0 : Nat) : BuildSt := ⟨[(g.clos q0, 0)], [], []⟩

theorem initSt_inv (g : Gen) (q0 : Nat) (V : Nat → Prop) : GInv g q0 V (initSt g q0) := by
  have hget : ∀ (j : Nat) (e : List Nat × Nat), (initSt g q0).map[j]? = some e → j = 0 ∧ e = (g.clos q0, 0) := by
    intro j e he
    cases j with
    | zero => exact ⟨rfl, (Option.some.inj he).symm⟩
    | succ j => cases he
  refine ⟨fun j e he => ?_, List.pairwise_singleton _ _, rfl, fun j e he hj => ?_,
    fun x hx => (nomatch hx), fun x hx => (nomatch hx)⟩
  · obtain ⟨rfl, rfl⟩ := hget j e he
    rfl
  · obtain ⟨rfl, _⟩ := hget j e he
    exact absurd hj (Nat.not_succ_le_zero 0)

theorem genLoop_final {N : Nat} (hok : GOK g q0 V N) (fuel : Nat)
    (hf : N + 1 ≤ fuel) :
    GInv g q0 V (genLoop g fuel 0 (initSt g q0)) ∧
      ∀ i, i < (genLoop g fuel 0 (initSt g q0)).map.length → AllDone g (genLoop g fuel 0 (initSt g q0)) i := by
  obtain ⟨h1, _, h3⟩ := genLoop_spec hok fuel 0 (initSt g q0) (initSt_inv g q0 V)
    (fun i hi _ => by omega) (by omega)
  exact ⟨h1, h3⟩

end Scnr

import ScnrVerif.Proofs.Iter
/-!
# Line bookkeeping (C09)

`positionOf` on the recorded line offsets equals the true line/column whenever the recorded
offsets are exactly the true line starts below a frontier (`position_spec`), and the invariant
that makes this true is preserved by the iterator operations.
-/
namespace Scnr

theorem positionOf_congr {lo lo' : List Nat} {o : Nat} (hs : StrictSorted lo) (hs' : StrictSorted lo')
    (h : ∀ x, x ≤ o → (x ∈ lo ↔ x ∈ lo')) : positionOf lo o = positionOf lo' o := by
  have : lo.filter (· ≤ o) = lo'.filter (· ≤ o) := by
    apply strictSorted_ext (strictSorted_filter _ hs) (strictSorted_filter _ hs')
    intro x
    simp only [List.mem_filter, decide_eq_true_eq]
    exact ⟨fun hx => ⟨(h x hx.2).mp hx.1, hx.2⟩, fun hx => ⟨(h x hx.2).mpr hx.1, hx.2⟩⟩
  unfold positionOf
  simp only [this]

theorem position_spec (input lo : List Nat) (o : Nat) (hs : StrictSorted lo)
    (hts : StrictSorted (lineStartsOf input))
    (h2 : ∀ x ∈ lo, x ∈ lineStartsOf input)
    (h3 : ∀ x ∈ lineStartsOf input, x ≤ o → x ∈ lo) :
    positionOf lo o = trueLineCol input o :=
  positionOf_congr hs hts fun x hle => ⟨h2 x, fun hx => h3 x hx hle⟩

/-- The alternative at the frontier: every true line start `< o` is recorded but `o` itself (a
    line start whose first character is not consumed yet) is not: the position is the column after
    the line break on the previous line. -/
theorem position_alt (input lo : List Nat) (o : Nat) (hs : StrictSorted lo)
    (hts : StrictSorted (lineStartsOf input))
    (h2 : ∀ x ∈ lo, x ∈ lineStartsOf input)
    (h3 : ∀ x ∈ lineStartsOf input, x < o → x ∈ lo) (ho : o ∉ lo) :
    positionOf lo o = altLineCol input o := by
  refine positionOf_congr hs (strictSorted_filter _ hts) fun x hle => ?_
  rw [List.mem_filter, decide_eq_true_eq]
  exact ⟨fun hx => ⟨h2 x hx, fun he => ho (he ▸ hx)⟩,
    fun hx => h3 x hx.1 (Nat.lt_of_le_of_ne hle hx.2)⟩

theorem positionOK_strict_iff (input : List Nat) (o : Nat) (p : Nat × Nat) :
    positionOK input o true p = true ↔ p = trueLineCol input o := by
  simp only [positionOK, Bool.not_true, Bool.false_and, Bool.or_false, beq_iff_eq]

theorem positionOK_lenient {input : List Nat} {o : Nat} {s : Bool} {p : Nat × Nat}
    (h : positionOK input o s p = true) : positionOK input o false p = true := by
  cases s with
  | false => exact h
  | true =>
    rw [positionOK, (positionOK_strict_iff input o p).mp h, beq_self_eq_true]
    rfl

theorem positionOK_alt {input : List Nat} {o : Nat} (hls : o ∈ lineStartsOf input) (h0 : o ≠ 0) :
    positionOK input o false (altLineCol input o) = true := by
  simp [positionOK, hls, h0]

theorem lineStartsFrom_cons (p c : Nat) (w : List Nat) :
    lineStartsFrom p (c :: w) =
      if c = 10 then (p + utf8Len c) :: lineStartsFrom (p + utf8Len c) w
      else lineStartsFrom (p + utf8Len c) w := rfl

theorem mem_lineStartsFrom_cons {p c : Nat} {w : List Nat} {x : Nat} :
    x ∈ lineStartsFrom p (c :: w) ↔
      (c = 10 ∧ x = p + utf8Len c) ∨ x ∈ lineStartsFrom (p + utf8Len c) w := by
  rw [lineStartsFrom_cons]
  split
  next h => simp only [List.mem_cons, h, true_and]
  next h => simp only [h, false_and, false_or]

theorem lineStartsFrom_bounds (p : Nat) (w : List Nat) (x : Nat) (hx : x ∈ lineStartsFrom p w) :
    p < x ∧ x ≤ p + bytesLen w := by
  induction w generalizing p with
  | nil => cases hx
  | cons c w ih =>
    have hc := utf8Len_pos c
    rw [bytesLen, ← Nat.add_assoc]
    rcases mem_lineStartsFrom_cons.mp hx with ⟨_, rfl⟩ | h
    · exact ⟨Nat.lt_add_of_pos_right hc, Nat.le_add_right _ _⟩
    · exact ⟨Nat.lt_trans (Nat.lt_add_of_pos_right hc) (ih _ h).1, (ih _ h).2⟩

theorem lineStartsFrom_gt (p : Nat) (w : List Nat) : ∀ x ∈ lineStartsFrom p w, p < x :=
  fun x hx => (lineStartsFrom_bounds p w x hx).1

theorem lineStartsFrom_sorted (p : Nat) (w : List Nat) : StrictSorted (lineStartsFrom p w) := by
  induction w generalizing p with
  | nil => exact trivial
  | cons c w ih =>
    rw [lineStartsFrom_cons]
    split
    · exact ⟨lineStartsFrom_gt _ _, ih _⟩
    · exact ih _

theorem lineStartsOf_sorted (input : List Nat) : StrictSorted (lineStartsOf input) :=
  ⟨lineStartsFrom_gt 0 input, lineStartsFrom_sorted 0 input⟩

theorem utf8Len_ten : utf8Len 10 = 1 := by decide

theorem lineStartsFrom_append (q : Nat) (u v : List Nat) :
    lineStartsFrom q (u ++ v) = lineStartsFrom q u ++ lineStartsFrom (q + bytesLen u) v := by
  induction u generalizing q with
  | nil => rfl
  | cons c u ih =>
    rw [List.cons_append, lineStartsFrom_cons, lineStartsFrom_cons, ih, bytesLen, Nat.add_assoc]
    split
    · rfl
    · rfl

theorem end_mem_lineStartsFrom (q : Nat) (u : List Nat) :
    q + bytesLen u ∈ lineStartsFrom q u ↔ u.getLastD 0 = 10 := by
  rcases List.eq_nil_or_concat u with rfl | ⟨u, c, rfl⟩
  · exact iff_of_false List.not_mem_nil (by decide)
  · -- a line start of `u ++ [c]` lies in `u`, hence before the end, or is the end
    rw [List.concat_eq_append, lineStartsFrom_append, List.mem_append, bytesLen_append, ← Nat.add_assoc,
      List.getLastD_concat, mem_lineStartsFrom_cons]
    have hc : 0 < bytesLen [c] := bytesLen_pos (List.cons_ne_nil c [])
    constructor
    · rintro (h | ⟨h, _⟩ | h)
      · exact absurd (lineStartsFrom_bounds q u _ h).2 (Nat.not_le.mpr (Nat.lt_add_of_pos_right hc))
      · exact h
      · cases h
    · exact fun h => Or.inr (Or.inl ⟨h, by rw [bytesLen, bytesLen, Nat.add_zero]⟩)

theorem cursor_lineStart_iff (p r : List Nat) :
    bytesLen p ∈ lineStartsFrom 0 (p ++ r) ↔ charBefore (p ++ r) (bytesLen p) = 10 := by
  have hend := end_mem_lineStartsFrom 0 p
  rw [Nat.zero_add] at hend
  rw [lineStartsFrom_append, charBefore_append, List.mem_append, hend, Nat.zero_add]
  exact or_iff_left fun h => Nat.lt_irrefl _ (lineStartsFrom_gt _ _ _ h)

theorem lineStart_in_char (p : List Nat) (c : Nat) (r : List Nat) (x : Nat)
    (hx : x ∈ lineStartsFrom 0 (p ++ c :: r)) (h1 : bytesLen p ≤ x) (h2 : x < bytesLen p + utf8Len c) :
    x = bytesLen p := by
  rw [lineStartsFrom_append, List.mem_append, Nat.zero_add] at hx
  rcases hx with h | h
  · exact Nat.le_antisymm (Nat.zero_add (bytesLen p) ▸ (lineStartsFrom_bounds 0 p x h).2) h1
  · rcases mem_lineStartsFrom_cons.mp h with ⟨_, rfl⟩ | h
    · exact absurd h2 (Nat.lt_irrefl _)
    · exact absurd (Nat.lt_trans h2 (lineStartsFrom_gt _ _ _ h)) (Nat.lt_irrefl _)

theorem lineStart_at_cursor (p : List Nat) (c : Nat) (r : List Nat) (x : Nat) :
    (x ∈ lineStartsFrom 0 (p ++ c :: r) ∧ bytesLen p ≤ x ∧ x < bytesLen p + utf8Len c) ↔
      (charBefore (p ++ c :: r) (bytesLen p) = 10 ∧ x = bytesLen p) := by
  constructor
  · rintro ⟨hx, h1, h2⟩
    have hxp := lineStart_in_char p c r x hx h1 h2
    subst hxp
    exact ⟨(cursor_lineStart_iff p (c :: r)).mp hx, rfl⟩
  · rintro ⟨h10, rfl⟩
    exact ⟨(cursor_lineStart_iff p (c :: r)).mpr h10, Nat.le_refl _, Nat.lt_add_of_pos_right (utf8Len_pos c)⟩

theorem insertSorted_eq_insertBy (x : Nat) (l : List Nat) :
    insertSorted x l = insertBy (fun a b => decide (a < b)) x l := by
  induction l with
  | nil => rfl
  | cons y r ih =>
    rw [insertSorted, insertBy, ih]
    by_cases h1 : x < y
    · rw [if_pos h1, if_neg (Nat.ne_of_lt h1), if_pos (decide_eq_true h1)]
    · rw [if_neg h1, decide_eq_false h1]
      rfl

theorem mem_insertSorted {x y : Nat} {l : List Nat} : y ∈ insertSorted x l ↔ y = x ∨ y ∈ l :=
  insertSorted_eq_insertBy x l ▸ mem_insertBy _ x y l

theorem insertSorted_sorted {x : Nat} {l : List Nat} (h : StrictSorted l) : StrictSorted (insertSorted x l) :=
  insertSorted_eq_insertBy x l ▸ insertBy_lt_sorted x l h

theorem mem_mergeLineOffsets {lo xs : List Nat} {y : Nat} :
    y ∈ mergeLineOffsets lo xs ↔ y ∈ lo ∨ y ∈ xs :=
  mem_foldl_step (fun _ _ _ => by rw [mem_insertSorted, or_comm]) xs lo y

theorem mergeLineOffsets_sorted {lo xs : List Nat} (h : StrictSorted lo) :
    StrictSorted (mergeLineOffsets lo xs) :=
  List.foldlRecOn xs _ h fun _ hb _ _ => insertSorted_sorted hb

theorem mem_consumedStarts_cons (off rel lc c : Nat) (u : List Nat) (x : Nat) :
    x ∈ consumedStarts off rel lc (c :: u) ↔
      (lc = 10 ∧ x = rel + off) ∨ x ∈ consumedStarts off (rel + utf8Len c) c u := by
  rw [consumedStarts]
  split
  next h => simp only [List.mem_cons, h, true_and]
  next h => simp only [h, false_and, false_or]

/-- Consumed positions are exactly the offsets after a line feed in the consumed range; offset 0,
    a line start by convention, is recorded by `new` only. (The last character need be known only
    if something is consumed.) -/
theorem mem_consumedStarts (off : Nat) (p u v : List Nat) (rel lc : Nat)
    (hP : bytesLen p = off + rel) (hlc : u ≠ [] → lc = charBefore (p ++ u ++ v) (bytesLen p)) (x : Nat) :
    x ∈ consumedStarts off rel lc u ↔
      (x ∈ lineStartsFrom 0 (p ++ u ++ v) ∧ bytesLen p ≤ x ∧ x < bytesLen p + bytesLen u) := by
  induction u generalizing p rel lc with
  | nil => exact iff_of_false List.not_mem_nil fun h => Nat.lt_irrefl _ (Nat.lt_of_le_of_lt h.2.1 h.2.2)
  | cons c u ih =>
    have hin : p ++ c :: u ++ v = (p ++ [c]) ++ u ++ v := by rw [List.append_assoc p [c] u]; rfl
    have hb : bytesLen (p ++ [c]) = bytesLen p + utf8Len c := by
      rw [bytesLen_append, bytesLen, bytesLen, Nat.add_zero]
    have ih' := ih (p ++ [c]) (rel + utf8Len c) c (by rw [hb, hP, Nat.add_assoc])
      (fun _ => by rw [List.append_assoc (p ++ [c]), charBefore_append, List.getLastD_concat])
    have hcur := lineStart_at_cursor p c (u ++ v) x
    rw [← hin, hb] at ih'
    rw [show p ++ c :: (u ++ v) = p ++ c :: u ++ v from (List.append_assoc p (c :: u) v).symm] at hcur
    rw [mem_consumedStarts_cons, ih', hlc (List.cons_ne_nil c u), Nat.add_comm rel off, ← hP, ← hcur,
      bytesLen, ← Nat.add_assoc]
    -- the consumed range splits at the end of `c`
    constructor
    · rintro (⟨hx, h1, h2⟩ | ⟨hx, h1, h2⟩)
      · exact ⟨hx, h1, Nat.lt_of_lt_of_le h2 (Nat.le_add_right _ _)⟩
      · exact ⟨hx, Nat.le_trans (Nat.le_add_right _ _) h1, h2⟩
    · rintro ⟨hx, h1, h2⟩
      by_cases hlt : x < bytesLen p + utf8Len c
      · exact Or.inl ⟨hx, h1, hlt⟩
      · exact Or.inr ⟨hx, Nat.le_of_not_lt hlt, h2⟩

/-- `F` is the frontier: everything below `F` has been consumed at some time. Second case of
    `lastChar`: at the end of the input `next_match` resets `last_char` to `'\0'`. -/
structure Iter.Lines (it : Iter) (F : Nat) : Prop where
  sorted : StrictSorted it.lineOffsets
  zero : 0 ∈ it.lineOffsets
  sound : ∀ x ∈ it.lineOffsets, x ∈ lineStartsOf it.input
  complete : ∀ x ∈ lineStartsOf it.input, x < F → x ∈ it.lineOffsets
  lastChar : it.lastChar = charBefore it.input it.cursor ∨ (it.rest = [] ∧ it.lastChar = 0)
  cursorLe : it.cursor ≤ F
  fLe : F ≤ bytesLen it.input

theorem Iter.new_lines (input : List Nat) : (Iter.new input).Lines 0 :=
  ⟨⟨fun _ h => absurd h List.not_mem_nil, trivial⟩, List.mem_singleton.mpr rfl,
   fun _ hx => List.mem_singleton.mp hx ▸ List.mem_cons_self,
   fun _ _ h => absurd h (Nat.not_lt_zero _), Or.inl (charBefore_zero input).symm,
   Nat.le_refl 0, Nat.zero_le _⟩

/-- `it'` is `it` after consuming the prefix `u` of the rest: it recorded exactly `consumedStarts … u` and
    its `lastChar` is the last consumed character; then the invariant holds with the frontier raised to
    the new cursor. -/
theorem lines_consume (it it' : Iter) (F : Nat) (hi : it.Inv) (hl : it.Lines F) (u v : List Nat)
    (hr : it.rest = u ++ v) (hin : it'.input = it.input) (hrest : it'.rest = v)
    (hcur : it'.cursor = it.cursor + bytesLen u)
    (hs : StrictSorted it'.lineOffsets)
    (hm : ∀ x, x ∈ it'.lineOffsets ↔ x ∈ it.lineOffsets ∨ x ∈ consumedStarts it.offset it.rel it.lastChar u)
    (hlc : it'.lastChar = u.getLastD it.lastChar) :
    it'.Lines (max F it'.cursor) := by
  obtain ⟨p, hp, hpl⟩ := hi.pre
  have hinput : it.input = p ++ u ++ v := by rw [hp, hr, List.append_assoc]
  have hPc : bytesLen p = it.cursor := hpl
  have hlcb : u ≠ [] → it.lastChar = charBefore (p ++ u ++ v) (bytesLen p) := by
    intro hu
    rcases hl.lastChar with h | ⟨h1, _⟩
    · rw [h, hinput, hPc]
    · exact absurd (List.append_eq_nil_iff.mp (hr ▸ h1)).1 hu
  have hmc := mem_consumedStarts it.offset p u v it.rel it.lastChar hpl hlcb
  refine ⟨hs, (hm 0).mpr (Or.inl hl.zero), ?_, ?_, ?_, Nat.le_max_right _ _, ?_⟩
  · intro x hx
    rw [hin]
    rcases (hm x).mp hx with h | h
    · exact hl.sound x h
    · exact List.mem_cons_of_mem _ (hinput ▸ ((hmc x).mp h).1)
  · intro x hx hlt
    rw [hin] at hx
    by_cases hF : x < F
    · exact (hm x).mpr (Or.inl (hl.complete x hx hF))
    · rcases List.mem_cons.mp hx with rfl | hx
      · exact (hm 0).mpr (Or.inl hl.zero)
      · -- a line start at or above the old frontier lies in the consumed range
        have hFx : F ≤ x := Nat.le_of_not_lt hF
        have hxu : x < it'.cursor := Nat.lt_of_not_le fun h =>
          Nat.lt_irrefl _ (Nat.lt_of_lt_of_le hlt (Nat.max_le.mpr ⟨hFx, h⟩))
        exact (hm x).mpr (Or.inr ((hmc x).mpr
          ⟨hinput ▸ hx, hPc ▸ Nat.le_trans hl.cursorLe hFx, hPc ▸ hcur ▸ hxu⟩))
  · rw [hlc, hin, hcur, hrest]
    rcases hl.lastChar with h | ⟨h1, h2⟩
    · rw [h, hinput, ← hPc, ← bytesLen_append, charBefore_append (p ++ u) v, List.append_assoc,
        charBefore_append p (u ++ v), getLastD_append]
      exact Or.inl rfl
    · obtain ⟨rfl, rfl⟩ := List.append_eq_nil_iff.mp (hr ▸ h1)
      exact Or.inr ⟨rfl, h2⟩
  · rw [hin, hcur]
    exact Nat.max_le.mpr ⟨hl.fLe, (hi.boundary hr).2⟩

/-- `set_offset(o)` to an offset at or below the frontier (an already scanned one). -/
theorem setOffset_lines (it : Iter) (F o : Nat) (hl : it.Lines F) (ho : o ≤ F) :
    (it.setOffset o).Lines F := by
  refine ⟨hl.sorted, hl.zero, hl.sound, hl.complete, Or.inl rfl, ?_, hl.fLe⟩
  show min o (bytesLen it.input) ≤ F
  exact Nat.le_trans (Nat.min_le_left _ _) ho

theorem lines_record (it : Iter) (F x : Nat) (hl : it.Lines F) (hx : x ∈ lineStartsOf it.input) :
    Iter.Lines { it with lineOffsets := insertSorted x it.lineOffsets } F :=
  ⟨insertSorted_sorted hl.sorted, mem_insertSorted.mpr (Or.inr hl.zero),
   fun y hy => (mem_insertSorted.mp hy).elim (fun h => h ▸ hx) (hl.sound y),
   fun y hy hlt => mem_insertSorted.mpr (Or.inr (hl.complete y hy hlt)),
   hl.lastChar, hl.cursorLe, hl.fLe⟩

/-- at the end of the input `next_match` records the end as a line start if the last character
    is a line feed, and forgets the last character -/
theorem lines_at_end (it : Iter) (hi : it.Inv) (hl : it.Lines (bytesLen it.input)) (hr : it.rest = []) :
    Iter.Lines { it with lastChar := 0,
                         lineOffsets := if it.lastChar = 10 then insertSorted (bytesLen it.input) it.lineOffsets
                                        else it.lineOffsets } (bytesLen it.input) := by
  have hforget : ∀ {it' : Iter}, it'.Lines (bytesLen it.input) → it'.rest = [] →
      Iter.Lines { it' with lastChar := 0 } (bytesLen it.input) :=
    fun h hr' => ⟨h.sorted, h.zero, h.sound, h.complete, Or.inr ⟨hr', rfl⟩, h.cursorLe, h.fLe⟩
  by_cases h10 : it.lastChar = 10
  · have hend : bytesLen it.input ∈ lineStartsOf it.input := by
      have hb := cursor_lineStart_iff it.input []
      rw [List.append_nil] at hb
      refine List.mem_cons_of_mem _ (hb.mpr ?_)
      rcases hl.lastChar with h | ⟨_, h⟩
      · rw [← h10, h, hi.cursor_end hr]
      · rw [h] at h10
        cases h10
    rw [if_pos h10]
    exact hforget (lines_record it _ _ hl hend) hr
  · rw [if_neg h10]
    exact hforget hl hr

/-- One `next_match` call keeps the line invariant and extends the frontier to the new cursor. -/
theorem next_lines (cfg : List ModeCfg) (find : Finder) (hf : FinderOK find) (it : Iter) (F : Nat)
    (hi : it.Inv) (hl : it.Lines F) :
    (it.next cfg find).1.Lines (max F (it.next cfg find).1.cursor) := by
  rcases next_eq cfg find hf it hi.lastPos with ⟨_, heq⟩ | ⟨sk, u, v, tid, hr, _, _, _, heq⟩
  · rw [heq]
    -- first the consumption of the rest, then the record of the end of the input
    let it0 : Iter :=
      { it with
        rest := [], rel := it.rel + bytesLen it.rest, lastChar := it.rest.getLastD it.lastChar,
        lineOffsets := mergeLineOffsets it.lineOffsets
          (consumedStarts it.offset it.rel it.lastChar it.rest) }
    have h0 : it0.Lines (max F it0.cursor) :=
      lines_consume it it0 F hi hl it.rest [] (List.append_nil _).symm rfl rfl (Nat.add_assoc _ _ _).symm
        (mergeLineOffsets_sorted hl.sorted) (fun _ => mem_mergeLineOffsets) rfl
    have hi0 : it0.Inv := hi.consume (List.append_nil _).symm rfl rfl (Nat.add_assoc _ _ _).symm
      (Nat.le_trans hi.lastPos (Nat.le_add_right _ _))
    have hend : it.offset + (it.rel + bytesLen it.rest) = bytesLen it.input := hi0.cursor_end rfl
    have hmax : max F (it.offset + (it.rel + bytesLen it.rest)) = bytesLen it.input :=
      hend ▸ Nat.max_eq_right (hend ▸ hl.fLe)
    show Iter.Lines _ (max F (it.offset + (it.rel + bytesLen it.rest)))
    rw [hmax]
    exact lines_at_end it0 hi0 (hmax ▸ h0) rfl
  · rw [heq]
    refine lines_consume it _ F hi hl (sk ++ u) v (by rw [hr, List.append_assoc]) rfl rfl ?_
      (mergeLineOffsets_sorted hl.sorted) (fun _ => mem_mergeLineOffsets) rfl
    show it.offset + (it.rel + bytesLen sk + bytesLen u) = it.offset + it.rel + bytesLen (sk ++ u)
    rw [bytesLen_append, Nat.add_assoc, Nat.add_assoc]

end Scnr

import ScnrVerif.Model.Agree
import ScnrVerif.Proofs.CompileCorrect
/-!
# `agree` is sound: agreeing ASTs denote the same language; track A as a decision path for C02
-/
namespace Scnr

/-- `Ast.desugar` has one formula for every `rep`, so `?`, `*`, `+`, `{n}` leave `eps` factors (`pow _ 0`)
    that `CAst.toRe` does not have. -/
theorem agree_sound_both (T R : List (List (Nat × Nat))) :
    (∀ a r, agree T R a r = true → SameLang (cmT T) (cmT R) a.toRe r.desugar) ∧
    (∀ xs ys, agreeList T R xs ys = true → AllSame (cmT T) (cmT R) (CAst.toReList xs) (Ast.desugarList ys)) := by
  apply agree.mutual_induct
    (motive_1 := fun a r => agree T R a r = true → SameLang (cmT T) (cmT R) a.toRe r.desugar)
    (motive_2 := fun xs ys => agreeList T R xs ys = true →
      AllSame (cmT T) (cmT R) (CAst.toReList xs) (Ast.desugarList ys))
  case case1 => intro _; exact sameLang_eps _ _
  case case2 =>
    intro c c' h
    exact sameLang_cls fun ch => by simp only [cmT, eq_of_beq h]
  case case3 =>
    intro xs ys ih h
    exact sameLang_catList (ih h)
  case case4 => -- `alt []` is rejected by `agree`: `toRe` reads it as `eps`, `desugar` as `void`
    intro x xs y ys ih1 ih2 h
    rw [agree, Bool.and_eq_true] at h
    exact sameLang_altList (.cons (ih1 h.1) (ih2 h.2))
  case case5 => -- `opt x` against `cat eps (cat (opt y) eps)`
    intro x y ih h
    exact sameLang_eps_cat (sameLang_cat_eps (sameLang_opt (ih h)))
  case case6 => -- `star x` against `cat eps (star y)`
    intro x y ih h
    exact sameLang_eps_cat (sameLang_star (ih h))
  case case7 => -- `plus`: `cat x (star x)` against `cat (cat y eps) (star y)`
    intro x y ih h
    exact sameLang_cat (sameLang_cat_eps (ih h)) (sameLang_star (ih h))
  case case8 => -- `exactly n`: `pow x n` against `cat (pow y n) (pow (opt y) (n - n))`
    intro n x m k y ih h
    simp only [agree, Bool.and_eq_true, beq_iff_eq] at h
    obtain ⟨⟨rfl, rfl⟩, h3⟩ := h
    rw [CAst.toRe, Ast.desugar, Nat.sub_self]
    exact sameLang_cat_eps (sameLang_pow (ih h3) _)
  case case9 =>
    intro n x m y ih h
    simp only [agree, Bool.and_eq_true, beq_iff_eq] at h
    obtain ⟨rfl, h3⟩ := h
    exact sameLang_cat (sameLang_pow (ih h3) _) (sameLang_star (ih h3))
  case case10 =>
    intro m n x m' n' y ih h
    simp only [agree, Bool.and_eq_true, beq_iff_eq] at h
    obtain ⟨⟨rfl, rfl⟩, h3⟩ := h
    exact sameLang_cat (sameLang_pow (ih h3) _) (sameLang_pow (sameLang_opt (ih h3)) _)
  case case11 =>
    intro t x h1 h2 h3 h4 h5 h6 h7 h8 h9 h10 h
    rw [agree.eq_11 T R t x h1 h2 h3 h4 h5 h6 h7 h8 h9 h10] at h; cases h
  case case12 => intro _; exact .nil
  case case13 =>
    intro x xs y ys ih1 ih2 h
    rw [agreeList, Bool.and_eq_true] at h
    exact .cons (ih1 h.1) (ih2 h.2)
  case case14 =>
    intro t x h1 h2 h
    rw [agreeList.eq_3 T R t x h1 h2] at h; cases h

theorem agree_sound (T R : List (List (Nat × Nat))) : (a : CAst) → (r : Ast) → agree T R a r = true →
    SameLang (cmT T) (cmT R) a.toRe r.desugar :=
  (agree_sound_both T R).1

theorem agreeList_sound (T R : List (List (Nat × Nat))) : (xs : List CAst) → (ys : List Ast) →
    agreeList T R xs ys = true → AllSame (cmT T) (cmT R) (CAst.toReList xs) (Ast.desugarList ys) :=
  (agree_sound_both T R).2

theorem acceptsTid_congr {A B : Dfa} (ht : A.trans = B.trans) (he : A.ends = B.ends) (cm : Nat → Nat → Bool)
    (w : List Nat) (t : Nat) : acceptsTid A cm w t ↔ acceptsTid B cm w t :=
  acceptsTid_map (f := id) (I := fun _ => True) (fun s _ cc k => by simp only [Dfa.outs, ht, id, exists_eq_right])
    (fun _ _ _ _ _ => trivial) (fun s _ => by simp only [Dfa.isEnd, Dfa.tidOf, he, id, implies_true, and_self])
    rfl trivial cm w t

theorem agreePats_sound (T R : List (List (Nat × Nat))) (ps : List (Nat × CAst)) (rs : List (Nat × Ast))
    (h : agreePats T R ps rs = true) (t : Nat) (w : List Nat) :
    (∃ q ∈ ps, q.1 = t ∧ Matches (cmT T) q.2.toRe w) ↔
      ∃ r, (t, r) ∈ rs.map (fun p => (p.1, p.2.desugar)) ∧ Matches (cmT R) r w := by
  induction ps generalizing rs with
  | nil =>
    cases rs with
    | nil => simp
    | cons _ _ => cases h
  | cons p ps ih =>
    cases rs with
    | nil => cases h
    | cons r rs =>
      simp only [agreePats, Bool.and_eq_true, beq_iff_eq] at h
      obtain ⟨⟨ht, ha⟩, hrest⟩ := h
      -- the head by `agree_sound`, the tail by `ih`; the rest moves the quantifier over the disjunction
      simp only [List.mem_cons, List.map_cons, Prod.mk.injEq, or_and_right, exists_or,
        and_assoc, exists_and_left, exists_eq_left, ih rs hrest, agree_sound T R _ _ ha w, ht, eq_comm (a := t)]

/-- **decision by the compiler theorem**: if the compiled automaton of a mode is, as data, the
    automaton the compiler model produces for the mode's patterns, and the leaves of these patterns
    carry the tables of the corresponding reference leaves, then it accepts what the reference
    patterns match — for every word, without exploring the automaton -/
theorem trackA_decides (T R : List (List (Nat × Nat))) (A : Dfa) (ps : List (Nat × CAst)) (rs : List (Nat × Ast))
    (hA : A = compileMode ps) (hag : agreePats T R ps rs = true) (w : List Nat) (t : Nat) :
    acceptsTid A (cmT T) w t ↔
      w ≠ [] ∧ ∃ r, (t, r) ∈ rs.map (fun p => (p.1, p.2.desugar)) ∧ Matches (cmT R) r w := by
  rw [hA, compileMode_correct, agreePats_sound T R ps rs hag]

end Scnr

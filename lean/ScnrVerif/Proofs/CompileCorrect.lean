import ScnrVerif.Proofs.EpsElim
import ScnrVerif.Proofs.EpsElim1
import ScnrVerif.Proofs.Thompson
import ScnrVerif.Proofs.MinimizeTerm
/-!
# The model of the regex compiler is correct for every pattern list (track A)

`compileMode ps` (Thompson construction per pattern, shifted side by side behind state 0, closure
construction, minimizer) accepts a word for a terminal iff the word is not empty and some pattern
with that terminal matches it.

Where the Rust code would panic or loop on, `Model/Compile.lean` has defaults (`Nfa.state`, `modifyState`,
`BuildSt.closureOf`, `MNfa.tidOf`) and fuels (`closureLoop`, `genLoop`). On the compiler's own data none of
them takes effect: `thompson_wf`, `Ok.fin_lt`, `GInv.closureOf`, `tidOf_valid`, `closureLoop_final`,
`genLoop_spec`.
-/
namespace Scnr

theorem mkMNfa_spec (ps : List (Nat × CAst)) : ∀ next : Nat,
    (∀ p ∈ mkMNfa next ps, p.2.WF ∧ next ≤ p.2.base ∧
      p.2.base + p.2.states.length ≤ next + ((mkMNfa next ps).map fun p => p.2.states.length).sum) ∧
    (mkMNfa next ps).Pairwise (fun p q => p.2.base + p.2.states.length ≤ q.2.base) := by
  induction ps with
  | nil => exact fun _ => ⟨fun _ hp => (nomatch hp), List.Pairwise.nil⟩
  | cons a ps ih =>
    intro next
    rw [mkMNfa]
    have hn : ((thompson a.2).shift next).WF := shift_wf _ _ (thompson_wf a.2).1
    have hb : ((thompson a.2).shift next).base = next := by rw [Nfa.shift, (thompson_wf a.2).2, Nat.zero_add]
    generalize (thompson a.2).shift next = n at hn hb
    subst hb
    obtain ⟨ih1, ih2⟩ := ih (n.base + n.states.length)
    simp only [List.forall_mem_cons, List.pairwise_cons, List.map_cons, List.sum_cons]
    refine ⟨⟨⟨hn, Nat.le_refl _, Nat.add_le_add_left (Nat.le_add_right _ _) _⟩, fun p hp => ?_⟩,
      fun q hq => (ih1 q hq).2.1, ih2⟩
    obtain ⟨h1, h2, h3⟩ := ih1 p hp
    exact ⟨h1, Nat.le_trans (Nat.le_add_right _ _) h2, Nat.add_assoc _ _ _ ▸ h3⟩

theorem mkMNfa_wf (ps : List (Nat × CAst)) : MWF (mkMNfa 1 ps) :=
  have h := mkMNfa_spec ps 1
  ⟨fun p hp => (h.1 p hp).1, fun p hp => (h.1 p hp).2.1, fun p hp => (h.1 p hp).2.2, h.2⟩

theorem mkMNfa_accepts (ps : List (Nat × CAst)) (cm : Nat → Nat → Bool) (w : List Nat) (tid : Nat) :
    ∀ next : Nat, (∃ p ∈ mkMNfa next ps, p.1 = tid ∧ p.2.Accepts cm w) ↔
      ∃ q ∈ ps, q.1 = tid ∧ Matches cm q.2.toRe w := by
  induction ps with
  | nil => intro next; simp [mkMNfa]
  | cons a ps ih =>
    intro next
    obtain ⟨t, ast⟩ := a
    simp only [mkMNfa, List.mem_cons, exists_eq_or_imp]
    rw [ih, shift_accepts, thompson_correct]

theorem Dfa.Proper.minimize_preserves {A : Dfa} (h : A.Proper) (cm : Nat → Nat → Bool) (w : List Nat) (t : Nat) :
    acceptsTid (minimize A) cm w t ↔ acceptsTid A cm w t :=
  minimize_preserves_all A h.1 h.2.1 h.2.2 cm w t

theorem compilePre_correct (ps : List (Nat × CAst)) (cm : Nat → Nat → Bool) (w : List Nat) (tid : Nat) :
    acceptsTid (compilePre ps) cm w tid ↔ w ≠ [] ∧ ∃ q ∈ ps, q.1 = tid ∧ Matches cm q.2.toRe w := by
  rw [compilePre, buildDfa_correct (mkMNfa_wf ps), mkMNfa_accepts]

theorem compileMode_correct (ps : List (Nat × CAst)) (cm : Nat → Nat → Bool) (w : List Nat) (tid : Nat) :
    acceptsTid (compileMode ps) cm w tid ↔ w ≠ [] ∧ ∃ q ∈ ps, q.1 = tid ∧ Matches cm q.2.toRe w :=
  ((buildDfa_proper (mkMNfa_wf ps) _).minimize_preserves cm w tid).trans (compilePre_correct ps cm w tid)

theorem compileLaPre_correct (a : CAst) (cm : Nat → Nat → Bool) (w : List Nat) (t : Nat) :
    acceptsTid (compileLaPre a) cm w t ↔ w ≠ [] ∧ t = 0 ∧ Matches cm a.toRe w := by
  rw [compileLaPre, buildDfa1_correct _ 0 (thompson_wf a).1 (thompson_start_fresh a) (thompson_wf a).2,
    thompson_correct]

/-- **lookahead automata**: the minimized automaton of a lookahead pattern accepts exactly the
    non-empty words the pattern matches -/
theorem compileLa_correct (a : CAst) (cm : Nat → Nat → Bool) (w : List Nat) (t : Nat) :
    acceptsTid (minimize (compileLaPre a)) cm w t ↔ w ≠ [] ∧ t = 0 ∧ Matches cm a.toRe w :=
  ((buildDfa1_proper _ 0 (thompson_wf a).1 (thompson_start_fresh a) (thompson_wf a).2).minimize_preserves cm w t).trans
    (compileLaPre_correct a cm w t)

theorem compileMode_prio (ps : List (Nat × CAst)) : (compileMode ps).prio = ps.map (·.1) := by
  simp [compileMode, minimize, createFromPartition, compilePre, buildDfa, mkDfa]

end Scnr

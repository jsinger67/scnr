import ScnrVerif.Model.CacheKey
import ScnrVerif.Proofs.World
/-!
# The cache over structural keys (C13)

`keyEq` is equality (`keyEq_iff`); `cacheGetK` satisfies `get_spec` like `cacheGet`; `absCache` turns a
structural cache into an identifier cache along an injective numbering (`lookup_abs`).
-/
namespace Scnr

theorem laEq_iff (a b : LookaheadC) : laEq a b = true ↔ a = b := by
  cases a; cases b; simp [laEq]

theorem optLaEq_iff (a b : Option LookaheadC) : optLaEq a b = true ↔ a = b := by
  cases a <;> cases b <;> simp [optLaEq, laEq_iff]

theorem patEq_iff (a b : PatternC) : patEq a b = true ↔ a = b := by
  cases a; cases b; simp [patEq, optLaEq_iff, and_assoc]

theorem listEq_iff {α : Type} (eq : α → α → Bool) (h : ∀ a b, eq a b = true ↔ a = b) :
    ∀ (x y : List α), listEq eq x y = true ↔ x = y
  | [], [] => by simp [listEq]
  | [], _ :: _ => by simp [listEq]
  | _ :: _, [] => by simp [listEq]
  | a :: as, b :: bs => by simp [listEq, h, listEq_iff eq h as bs]

theorem modeEq_iff (a b : ModeC) : modeEq a b = true ↔ a = b := by
  cases a; cases b; simp [modeEq, listEq_iff patEq patEq_iff, and_assoc]

theorem keyEq_iff (a b : CfgKey) : keyEq a b = true ↔ a = b := listEq_iff modeEq modeEq_iff a b

theorem keyEq_self (a : CfgKey) : keyEq a a = true := (keyEq_iff a a).mpr rfl

def CacheInvK (compileK : CfgKey → Option CompId) (cache : List (CfgKey × CompId)) : Prop :=
  ∀ p ∈ cache, compileK p.1 = some p.2

theorem lookupK_cons (k' : CfgKey) (c : CompId) (r : List (CfgKey × CompId)) (k : CfgKey) :
    lookupK ((k', c) :: r) k = if k = k' then some c else lookupK r k := by
  simp only [lookupK, keyEq_iff]

theorem lookupK_of_inv {compileK} {cache : List (CfgKey × CompId)} (h : CacheInvK compileK cache) {k c}
    (hl : lookupK cache k = some c) : compileK k = some c := by
  induction cache with
  | nil => cases hl
  | cons p r ih =>
    rw [lookupK_cons] at hl
    split at hl
    · next he =>
      cases hl
      exact he ▸ h _ (List.mem_cons_self ..)
    · exact ih (fun p hp => h p (List.mem_cons_of_mem _ hp)) hl

theorem cacheGetK_spec (compileK : CfgKey → Option CompId) (cache : List (CfgKey × CompId))
    (h : CacheInvK compileK cache) (k : CfgKey) :
    (cacheGetK compileK cache k).2 = compileK k ∧ CacheInvK compileK (cacheGetK compileK cache k).1 ∧
    (compileK k = none → (cacheGetK compileK cache k).1 = cache) :=
  get_spec compileK cache k (lookupK cache k) h (fun _ => lookupK_of_inv h) _ rfl

theorem runK_results (compileK : CfgKey → Option CompId) :
    ∀ (cache : List (CfgKey × CompId)) (ks : List CfgKey), CacheInvK compileK cache →
      (runK compileK cache ks).2 = ks.map compileK ∧ CacheInvK compileK (runK compileK cache ks).1
  | cache, [], h => ⟨rfl, h⟩
  | cache, k :: ks, h => by
    have s := cacheGetK_spec compileK cache h k
    have r := runK_results compileK (cacheGetK compileK cache k).1 ks s.2.1
    simp only [runK, List.map_cons]
    exact ⟨by rw [s.1, r.1], r.2⟩

/-- abstraction of a structural cache to the identifier cache of `Model/World.lean` -/
def absCache (num : CfgKey → CfgId) (cache : List (CfgKey × CompId)) : List (CfgId × CompId) :=
  cache.map fun p => (num p.1, p.2)

theorem lookup_abs (num : CfgKey → CfgId) (inj : ∀ a b, num a = num b → a = b)
    (cache : List (CfgKey × CompId)) (k : CfgKey) :
    (absCache num cache).lookup (num k) = lookupK cache k := by
  induction cache with
  | nil => rfl
  | cons p r ih =>
    rw [lookupK_cons, absCache, List.map_cons, List.lookup_cons, ← absCache, ih]
    by_cases he : k = p.1
    · rw [if_pos he, he, beq_self_eq_true]
    · rw [if_neg he, beq_false_of_ne fun e => he (inj _ _ e)]

end Scnr

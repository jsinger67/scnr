import ScnrVerif.Proofs.ThompsonOps
/-!
# Correctness of the Thompson construction of the compiler model

`thompson a` is well formed, has base 0, has no edge into its start state and accepts exactly the
words matched by `a.toRe`: one induction over the AST with the invariant `Nfa.Recognizes`.
-/
namespace Scnr

namespace Nfa

/-- `n` is an NFA as the operations take and return it, and accepts the language of `R` -/
structure Recognizes (n : Nfa) (R : Re) : Prop where
  ok : n.Ok
  lang : ∀ cm w, n.Accepts cm w ↔ Matches cm R w

variable {a b x : Nfa} {R S : Re}

theorem Recognizes.congr (h : a.Recognizes R) (hs : ∀ cm, SameLang cm cm R S) : a.Recognizes S :=
  ⟨h.ok, fun cm w => (h.lang cm w).trans (hs cm w)⟩

theorem Recognizes.cat_eps (h : a.Recognizes R) : a.Recognizes (.cat R .eps) :=
  h.congr fun _ => sameLang_cat_eps fun _ => Iff.rfl

theorem Recognizes.of_eps_cat (h : a.Recognizes (.cat .eps R)) : a.Recognizes R :=
  h.congr fun _ w => ((sameLang_eps_cat fun _ => Iff.rfl) w).symm

theorem empty_recognizes : Nfa.empty.Recognizes .eps :=
  ⟨empty_ok, fun cm w => by rw [empty_accepts, matches_eps_iff]⟩

theorem Recognizes.concat (ha : a.Recognizes R) (hb : b.Recognizes S) : (a.concat b).Recognizes (.cat R S) :=
  ⟨concat_ok ha.ok hb.ok, fun cm w => by
    simp only [concat_accepts ha.ok hb.ok, matches_cat_iff, ha.lang, hb.lang]⟩

theorem Recognizes.alternation (ha : a.Recognizes R) (hb : b.Recognizes S) :
    (a.alternation b).Recognizes (.alt R S) :=
  ⟨alternation_ok ha.ok hb.ok, fun cm w => by
    rw [alternation_accepts ha.ok hb.ok, matches_alt_iff, ha.lang, hb.lang]⟩

theorem Recognizes.zeroOrOne (ha : a.Recognizes R) : a.zeroOrOne.Recognizes (Re.opt R) :=
  ⟨zeroOrOne_ok ha.ok, fun cm w => by rw [zeroOrOne_accepts ha.ok, matches_opt_iff, ha.lang]⟩

theorem Recognizes.zeroOrMore (ha : a.Recognizes R) : a.zeroOrMore.Recognizes (.star R) :=
  ⟨zeroOrMore_ok ha.ok, fun cm w => zeroOrMore_accepts ha.ok cm R (ha.lang cm) w⟩

theorem Recognizes.oneOrMore (ha : a.Recognizes R) : a.oneOrMore.Recognizes (.cat R (.star R)) :=
  ⟨oneOrMore_ok ha.ok, fun cm w => oneOrMore_accepts ha.ok cm R (ha.lang cm) w⟩

theorem Recognizes.repeatConcat (hx : x.Recognizes R) (k : Nat) :
    ∀ {acc : Nfa} {Q : Re}, acc.Recognizes Q → (Nfa.repeatConcat acc x k).Recognizes (.cat Q (Re.pow R k)) := by
  induction k with
  | zero => exact fun ha => ha.cat_eps
  | succ k ih => exact fun ha => (ih (ha.concat hx)).congr fun _ _ => matches_cat_assoc

theorem Recognizes.pow (hx : x.Recognizes R) (k : Nat) :
    (Nfa.repeatConcat Nfa.empty x k).Recognizes (Re.pow R k) :=
  (hx.repeatConcat k empty_recognizes).of_eps_cat

end Nfa

theorem thompson_leaf (c : Nat) : thompson (.leaf c) = ⟨0, [⟨[], [(c, 1)]⟩, ⟨[], []⟩], 0, 1⟩ := rfl

theorem leaf_recognizes (c : Nat) : (thompson (.leaf c)).Recognizes (.cls c) := by
  rw [thompson_leaf]
  refine ⟨Nfa.Ok.of_table (n := 2) (s := 0) rfl (forall_mem_pair
    ⟨fun _ h => (nomatch h), fun p hp => ?_⟩ (.of_eps fun _ h => nomatch h)) rfl rfl (Nat.zero_lt_succ 1)
      (Nat.lt_succ_self 1) rfl, fun cm w => ?_⟩
  · rw [List.mem_singleton.mp hp]
    exact ⟨Nat.lt_succ_self 1, Nat.one_ne_zero⟩
  unfold Nfa.Accepts
  constructor
  · intro h
    cases h with
    | eps _ he _ => cases he
    | @step _ t _ ch cc w' _ ht hcm hp =>
      have ht' : (cc, t) ∈ [(c, 1)] := ht
      rw [List.mem_singleton, Prod.mk.injEq] at ht'
      obtain ⟨rfl, rfl⟩ := ht'
      obtain ⟨rfl, _⟩ := Nfa.Path.of_no_edges rfl rfl hp
      exact .cls hcm
  · intro h
    cases h with
    | cls hc => exact .step rfl (List.mem_singleton.mpr rfl) hc (.nil _)

theorem thompsonConcat_recognizes (xs : List CAst) (hxs : ∀ x ∈ xs, (thompson x).Recognizes x.toRe) :
    ∀ {acc : Nfa} {Q : Re}, acc.Recognizes Q →
      (thompsonConcat acc xs).Recognizes (.cat Q (Re.catList (CAst.toReList xs))) := by
  induction xs with
  | nil =>
    intro acc Q ha
    rw [thompsonConcat, CAst.toReList]
    exact ha.cat_eps
  | cons x xs ih =>
    intro acc Q ha
    rw [thompsonConcat, CAst.toReList]
    refine (ih (fun y hy => hxs y (List.mem_cons_of_mem _ hy)) (ha.concat (hxs x List.mem_cons_self))).congr
      fun cm w => ?_
    rw [matches_cat_assoc, matches_cat_iff, matches_cat_iff (b := Re.catList _)]
    simp only [matches_catList_cons, matches_cat_iff]

theorem thompsonAlt_recognizes (xs : List CAst) (hxs : ∀ x ∈ xs, (thompson x).Recognizes x.toRe) :
    ∀ {acc : Nfa} {Q : Re}, acc.Recognizes Q →
      (thompsonAlt acc xs).Recognizes (Re.altList (Q :: CAst.toReList xs)) := by
  induction xs with
  | nil =>
    intro acc Q ha
    rw [thompsonAlt, CAst.toReList]
    exact ha
  | cons x xs ih =>
    intro acc Q ha
    rw [thompsonAlt, CAst.toReList]
    refine (ih (fun y hy => hxs y (List.mem_cons_of_mem _ hy)) (ha.alternation (hxs x List.mem_cons_self))).congr
      fun cm w => ?_
    rw [matches_altList_cons, matches_alt_iff, matches_altList_cons (r := Q), matches_altList_cons (r := x.toRe),
      or_assoc]

/-- `Nfa.Recognizes` for `thompson a` without the fresh start state -/
def Good (a : CAst) : Prop :=
  (thompson a).WF ∧ (thompson a).base = 0 ∧ ∀ cm w, (thompson a).Accepts cm w ↔ Matches cm a.toRe w

mutual
theorem recognizes : (a : CAst) → (thompson a).Recognizes a.toRe
  | .empty => Nfa.empty_recognizes
  | .leaf c => leaf_recognizes c
  | .concat xs =>
    (thompsonConcat_recognizes xs (recognizesList xs) Nfa.empty_recognizes).of_eps_cat
  | .alt [] => Nfa.empty_recognizes
  | .alt (x :: xs) => thompsonAlt_recognizes xs (recognizesList xs) (recognizes x)
  | .opt x => (recognizes x).zeroOrOne
  | .star x => (recognizes x).zeroOrMore
  | .plus x => (recognizes x).oneOrMore
  | .exactly n x => (recognizes x).pow n
  | .atLeast n x => ((recognizes x).pow n).concat (recognizes x).zeroOrMore
  | .bounded m n x => (recognizes x).zeroOrOne.repeatConcat (n - m) ((recognizes x).pow m)
theorem recognizesList : (xs : List CAst) → ∀ y ∈ xs, (thompson y).Recognizes y.toRe
  | [] => fun _ h => nomatch h
  | x :: xs => fun y hy =>
    (List.mem_cons.mp hy).elim (fun h => h ▸ recognizes x) (fun h => recognizesList xs y h)
end

theorem good (a : CAst) : Good a :=
  ⟨(recognizes a).ok.wf, (recognizes a).ok.base, (recognizes a).lang⟩

theorem goodList : (xs : List CAst) → ∀ y ∈ xs, Good y :=
  fun _ y _ => good y

theorem thompson_wf (a : CAst) : (thompson a).WF ∧ (thompson a).base = 0 :=
  ⟨(recognizes a).ok.wf, (recognizes a).ok.base⟩

theorem thompson_correct (a : CAst) (cm : Nat → Nat → Bool) (w : List Nat) :
    (thompson a).Accepts cm w ↔ Matches cm a.toRe w :=
  (recognizes a).lang cm w

theorem thompson_start_fresh : (a : CAst) → (thompson a).StartFresh :=
  fun a => (recognizes a).ok.fresh

theorem thompson_start_fresh_list : (xs : List CAst) → ∀ y ∈ xs, (thompson y).StartFresh :=
  fun _ y _ => thompson_start_fresh y

end Scnr

import ScnrVerif.Proofs.NfaSem
/-!
# Elementary facts about runs (`Nfa.Path`) and ε-reachability (`Nfa.EpsReach`) of the NFA model
-/
namespace Scnr

namespace Nfa

theorem Path.trans {n : Nfa} {cm : Nat → Nat → Bool} {s t x : Nat} {u v : List Nat}
    (h1 : n.Path cm s u t) (h2 : n.Path cm t v x) : n.Path cm s (u ++ v) x := by
  induction h1 with
  | nil s => exact h2
  | eps hc he _ ih => exact .eps hc he (ih h2)
  | step hc ht hcm _ ih => exact .step hc ht hcm (ih h2)

theorem Path.of_no_edges {n : Nfa} {cm : Nat → Nat → Bool} {s t : Nat} {w : List Nat}
    (he : (n.state s).eps = []) (ht : (n.state s).trans = []) (h : n.Path cm s w t) : w = [] ∧ t = s := by
  cases h with
  | nil => exact ⟨rfl, rfl⟩
  | eps _ hm _ => rw [he] at hm; cases hm
  | step _ hm _ _ => rw [ht] at hm; cases hm

theorem Path.contains_end {n : Nfa} {cm : Nat → Nat → Bool} (hwf : n.WF) {s t : Nat} {w : List Nat}
    (hs : n.contains s = true) (h : n.Path cm s w t) : n.contains t = true := by
  induction h with
  | nil s => exact hs
  | eps hc he _ ih => exact ih (hwf.eps_in _ hc _ he)
  | step hc ht _ _ ih => exact ih (hwf.trans_in _ hc _ ht)

theorem Path.from_fin {n : Nfa} {cm : Nat → Nat → Bool} (hwf : n.WF) {t : Nat} {w : List Nat}
    (h : n.Path cm n.fin w t) : w = [] ∧ t = n.fin :=
  Path.of_no_edges hwf.fin_out.1 hwf.fin_out.2 h

theorem contains_iff (n : Nfa) (s : Nat) : n.contains s = true ↔ n.base ≤ s ∧ s < n.base + n.states.length := by
  simp [Nfa.contains]

end Nfa

theorem epsReach_contains (n : Nfa) (h : n.WF) (x y : Nat) (hx : n.contains x = true)
    (hr : n.EpsReach x y) : n.contains y = true := by
  induction hr with
  | refl s => exact hx
  | step hs ht _ ih => exact ih (h.eps_in _ hs _ ht)

theorem epsReach_trans (n : Nfa) {a b c : Nat} (h1 : n.EpsReach a b) (h2 : n.EpsReach b c) :
    n.EpsReach a c := by
  induction h1 with
  | refl s => exact h2
  | step hs ht _ ih => exact Nfa.EpsReach.step hs ht (ih h2)

theorem epsReach_start {n : Nfa} (hf : n.StartFresh) {t : Nat} (hr : n.EpsReach t n.start) : t = n.start := by
  generalize hs : n.start = u at hr
  induction hr with
  | refl s => rfl
  | step hc ht _ ih =>
    have h1 := ih hs
    subst h1
    rw [← hs] at ht
    exact absurd ht (hf _ hc).1

theorem path_nil_iff_epsReach (n : Nfa) (cm : Nat → Nat → Bool) (x y : Nat) :
    n.Path cm x [] y ↔ n.EpsReach x y := by
  constructor
  · intro hp
    generalize hw : ([] : List Nat) = w at hp
    induction hp with
    | nil s => exact Nfa.EpsReach.refl s
    | eps hs ht _ ih => exact Nfa.EpsReach.step hs ht (ih hw)
    | step _ _ _ _ _ => cases hw
  · intro hr
    induction hr with
    | refl s => exact Nfa.Path.nil s
    | step hs ht _ ih => exact Nfa.Path.eps hs ht ih

/-- ε-moves followed by one class transition on the character `c` -/
def Nfa.StepC (n : Nfa) (cm : Nat → Nat → Bool) (q c t : Nat) : Prop :=
  ∃ s cc, n.EpsReach q s ∧ n.contains s = true ∧ (cc, t) ∈ (n.state s).trans ∧ cm cc c = true

theorem path_cons_iff (n : Nfa) (cm : Nat → Nat → Bool) (x c : Nat) (w : List Nat) (y : Nat) :
    n.Path cm x (c :: w) y ↔ ∃ t, n.StepC cm x c t ∧ n.Path cm t w y := by
  constructor
  · intro h
    generalize hv : c :: w = v at h
    induction h with
    | nil s => cases hv
    | eps hs ht _ ih =>
      obtain ⟨t', ⟨s', cc, hr, hc, hm, hcm⟩, hp⟩ := ih hv
      exact ⟨t', ⟨s', cc, .step hs ht hr, hc, hm, hcm⟩, hp⟩
    | step hs ht hcm hp _ =>
      cases hv
      exact ⟨_, ⟨_, _, .refl _, hs, ht, hcm⟩, hp⟩
  · rintro ⟨t, ⟨s, cc, hr, hc, hm, hcm⟩, hp⟩
    induction hr with
    | refl s => exact .step hc hm hcm hp
    | step hs ht _ ih => exact .eps hs ht (ih hc hm)

theorem stepC_contains (n : Nfa) (h : n.WF) (cm : Nat → Nat → Bool) (q c t : Nat) (hs : n.StepC cm q c t) :
    n.contains t = true := by
  obtain ⟨s, cc, _, hc, hm, _⟩ := hs
  exact h.trans_in s hc _ hm

/-- ε-moves followed by the class transition `(cc, t)` -/
def Nfa.EdgeC (n : Nfa) (q cc t : Nat) : Prop :=
  ∃ s, n.EpsReach q s ∧ n.contains s = true ∧ (cc, t) ∈ (n.state s).trans

theorem stepC_iff_edgeC {n : Nfa} {cm : Nat → Nat → Bool} {q c t : Nat} :
    n.StepC cm q c t ↔ ∃ cc, n.EdgeC q cc t ∧ cm cc c = true := by
  constructor
  · rintro ⟨s, cc, hr, hs, hx, hcm⟩
    exact ⟨cc, ⟨s, hr, hs, hx⟩, hcm⟩
  · rintro ⟨cc, ⟨s, hr, hs, hx⟩, hcm⟩
    exact ⟨s, cc, hr, hs, hx, hcm⟩

end Scnr

import ScnrVerif.Proofs.SubsetConstr
import ScnrVerif.Proofs.EpsClosure
/-!
# The closure construction for a single NFA (`impl From<Nfa> for CompiledDfa`, lookahead automata)

`gen_correct` (`SubsetConstr.lean`) at `n.gen tid`, with the start state of the NFA as initial state and the
other states as targets; `Nfa.StartFresh` keeps the start state out of every other closure.
-/
namespace Scnr

theorem insertPair_eq_insertBy :
    insertPair = insertBy (fun x y => x.1 < y.1 || (x.1 == y.1 && x.2 < y.2)) := by
  funext x l
  induction l with
  | nil => rfl
  | cons y r ih => rw [insertPair, insertBy, ih]

theorem mem_sortPairs (l : List (Nat × Nat)) (y : Nat × Nat) : y ∈ sortPairs l ↔ y ∈ l := by
  rw [sortPairs, insertPair_eq_insertBy]
  exact mem_normBy _ y l

theorem gen1_tr {n : Nfa} (tid : Nat) (hw : n.WF) {q : Nat} (hq : n.contains q = true) (cc t : Nat) :
    (cc, t) ∈ (n.gen tid).tr (n.epsClosure q) ↔ n.EdgeC q cc t := by
  simp only [Nfa.gen, mem_sortPairs, List.mem_flatMap, mem_epsClosure n hw q hq]
  constructor
  · rintro ⟨s, hr, hx⟩
    exact ⟨s, hr, epsReach_contains n hw _ _ hq hr, hx⟩
  · rintro ⟨s, hr, _, hx⟩
    exact ⟨s, hr, hx⟩

theorem gen1_ok (n : Nfa) (tid : Nat) (h : n.WF) (hf : n.StartFresh) :
    GOK (n.gen tid) n.start (fun t => n.contains t = true ∧ t ≠ n.start) (n.base + n.states.length) := by
  refine ⟨?_, fun t ht => ((Nfa.contains_iff n t).mp ht.1).2, ((Nfa.contains_iff n _).mp h.start_in).2⟩
  intro cl hcl x hx
  have hq : ∃ q, n.contains q = true ∧ cl = n.epsClosure q := by
    rcases hcl with rfl | ⟨t, ht, rfl⟩
    · exact ⟨n.start, h.start_in, rfl⟩
    · exact ⟨t, ht.1, rfl⟩
  obtain ⟨q, hq, rfl⟩ := hq
  obtain ⟨s, _, hsc, hxs⟩ := (gen1_tr tid h hq x.1 x.2).mp hx
  exact ⟨h.trans_in s hsc x hxs, (hf s hsc).2 x hxs⟩

theorem gen1_step {n : Nfa} (tid : Nat) (hw : n.WF) (cm : Nat → Nat → Bool) {q : Nat} (hq : n.contains q = true)
    (c t : Nat) : (n.gen tid).Step cm q c t ↔ n.StepC cm q c t := by
  rw [stepC_iff_edgeC]
  exact exists_congr fun cc => and_congr_left fun _ => gen1_tr tid hw hq cc t

theorem gen1_start (n : Nfa) (tid : Nat) (hw : n.WF) (hf : n.StartFresh) (q : Nat)
    (hq : n.contains q = true ∧ q ≠ n.start) : (n.gen tid).clos q ≠ (n.gen tid).clos n.start := by
  intro he
  have : n.start ∈ (n.gen tid).clos q := he ▸ (mem_epsClosure n hw _ hw.start_in _).mpr (.refl _)
  exact hq.2 (epsReach_start hf ((mem_epsClosure n hw _ hq.1 _).mp this))

theorem gen1_sem (n : Nfa) (tid : Nat) (hw : n.WF) (hf : n.StartFresh) (cm : Nat → Nat → Bool) :
    GSem (n.gen tid) n.start (fun t => n.contains t = true ∧ t ≠ n.start) cm
      (fun q w t => t = tid ∧ n.Path cm q w n.fin) := by
  refine ⟨fun q hq t => ?_, fun q hq c w t => ?_, fun _ _ _ _ _ => rfl, gen1_start n tid hw hf⟩
  · show _ ↔ (n.epsClosure q).contains n.fin = true ∧ tid = t
    rw [List.contains_iff_mem, mem_epsClosure n hw _ hq.1, path_nil_iff_epsReach, and_comm, eq_comm]
  · have hc : n.contains q = true := hq.elim (fun e => e ▸ hw.start_in) And.left
    simp only [path_cons_iff, gen1_step tid hw cm hc]
    constructor
    · rintro ⟨ht, x, hx, hp⟩
      exact ⟨x, hx, ht, hp⟩
    · rintro ⟨x, hx, ht, hp⟩
      exact ⟨ht, x, hx, hp⟩

theorem buildDfa1_correct (n : Nfa) (tid : Nat) (hw : n.WF) (hf : n.StartFresh) (hb : n.base = 0)
    (cm : Nat → Nat → Bool) (w : List Nat) (t : Nat) :
    acceptsTid (buildDfa1 n tid) cm w t ↔ w ≠ [] ∧ t = tid ∧ n.Accepts cm w := by
  -- the fuel suffices for the bound `n.base + n.states.length` of `gen1_ok` by `hb`
  obtain ⟨h, hd⟩ := genLoop_final (gen1_ok n tid hw hf) (n.states.length + 2) (by omega)
  exact gen_correct (gen1_ok n tid hw hf) (gen1_sem n tid hw hf cm) h hd [tid] w t

theorem buildDfa1_proper (n : Nfa) (tid : Nat) (hw : n.WF) (hf : n.StartFresh) (hb : n.base = 0) :
    (buildDfa1 n tid).Proper :=
  gen_dfa_proper (gen1_start n tid hw hf)
    -- `by omega` uses `hb`, as in `buildDfa1_correct`
    (genLoop_final (gen1_ok n tid hw hf) (n.states.length + 2) (by omega)).1 [tid]

end Scnr

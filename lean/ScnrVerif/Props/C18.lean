import ScnrVerif.Model.Dot
import ScnrVerif.Proofs.DotText
/-!
# C18 — the DOT export is a faithful picture of the compiled automata (partial)

`picture_is_faithful`: for every automaton whose start state is not accepting (C02's
`startNotAccepting`), decoding the structured DOT document gives back exactly its transitions (with
class ids, per state, in order) and the accepting flag and token type of every state; lookahead
clusters carry token type, polarity and the same faithful picture of the lookahead automaton.
PARTIAL: dot-writer's formatting is not verified: the text of the real files is judged by the verified
parser `parseDot`/`decodeDot` (second half of this file, `text_roundtrip`; the harness' Rust parser is
a cross-check only); file naming and I/O errors are checked on the implementation.
-/
namespace Scnr.C18

theorem src_of_mem_edgesFrom {s : Nat} {ts : List (Nat × Nat)} {e : DEdge} (h : e ∈ edgesFrom s ts) :
    e.src = s := by
  obtain ⟨p, _, rfl⟩ := List.mem_map.1 h
  rfl

theorem edgesFrom_read (s : Nat) (ts : List (Nat × Nat)) :
    (edgesFrom s ts).map (fun e => (e.cc, e.dst)) = ts := by
  rw [edgesFrom, List.map_map]
  exact List.map_id' ts

theorem filter_edgesOf_lt (base s : Nat) (h : s < base) (rows : List (List (Nat × Nat))) :
    (edgesOf base rows).filter (fun e => e.src == s) = [] := by
  induction rows generalizing base with
  | nil => rfl
  | cons ts rest ih =>
    rw [edgesOf, List.filter_append, ih (base + 1) (Nat.lt_succ_of_lt h), List.append_nil,
      List.filter_eq_nil_iff]
    intro e he
    rw [src_of_mem_edgesFrom he, beq_iff_eq]
    exact Nat.ne_of_gt h

theorem decode_rows (base : Nat) (rows : List (List (Nat × Nat))) :
    (List.range' base rows.length).map
      (fun s => ((edgesOf base rows).filter (fun e => e.src == s)).map fun e => (e.cc, e.dst)) = rows := by
  induction rows generalizing base with
  | nil => rfl
  | cons ts rest ih =>
    rw [List.length_cons, List.range'_succ, List.map_cons, edgesOf, List.filter_append,
      filter_edgesOf_lt _ _ (Nat.lt_succ_self base), List.append_nil,
      List.filter_eq_self.2 fun e he => by rw [src_of_mem_edgesFrom he, beq_self_eq_true],
      edgesFrom_read]
    congr 1
    refine .trans (List.map_congr_left fun s hs => ?_) (ih (base + 1))
    have hs := (List.mem_range'_1.1 hs).1
    rw [List.filter_append, List.filter_eq_nil_iff.2 fun e he => by
      rw [src_of_mem_edgesFrom he, beq_iff_eq]; exact Nat.ne_of_lt hs, List.nil_append]

theorem decodeTrans_dotGraph (A : Dfa) : decodeTrans (dotGraph A) = A.trans := by
  rw [decodeTrans, dotGraph, List.length_map, List.length_range, List.range_eq_range']
  exact decode_rows 0 A.trans

theorem decodeEnds_dotGraph (A : Dfa) (h0 : A.isEnd 0 = false) : decodeEnds (dotGraph A) = A.shown.2 := by
  unfold decodeEnds dotGraph Dfa.shown
  simp only [List.map_map]
  apply List.map_congr_left
  intro s _
  simp only [Function.comp, nodeOf]
  by_cases hs : s = 0
  · subst hs; simp [h0]
  · by_cases he : A.isEnd s = true
    · simp [hs, he]
    · simp [hs, he]

theorem picture_is_faithful (A : Dfa) (h0 : A.isEnd 0 = false) :
    (decodeTrans (dotGraph A), decodeEnds (dotGraph A)) = A.shown := by
  rw [decodeTrans_dotGraph, decodeEnds_dotGraph A h0]; rfl

theorem clusters_are_lookaheads (M : ModeDfa) :
    (dotDoc M).clusters.map (fun c => (c.tid, c.positive)) = M.las.map (fun p => (p.1, p.2.positive)) := by
  simp [dotDoc, List.map_map, Function.comp]

theorem one_node_per_state (A : Dfa) : (dotGraph A).nodes.length = A.trans.length := by
  simp [dotGraph]

/-! Non-vacuity: `>` `:` with positive lookahead `:` (the shape of tests/data/positive_lookahead_p). -/
def exA : Dfa := { trans := [[(0, 1)], [(1, 2)], []], ends := [(false, 0), (false, 0), (true, 1)], prio := [1] }
example : dotGraph exA = ⟨[⟨0, 1, 0⟩, ⟨1, 0, 0⟩, ⟨2, 2, 1⟩], [⟨0, 1, 0⟩, ⟨1, 2, 1⟩]⟩ := by decide
example : (decodeTrans (dotGraph exA), decodeEnds (dotGraph exA)) = exA.shown := by decide

/-! ## The text layer (`Model/DotText.lean`): well-formedness is decided by a verified parser

`parseDot` (lexer + parser for the DOT subset) and `decodeDot` run on the *text* of the real files on
every check. `renderDot` is the text the crate writes for a document; the round trip shows that the
parser accepts every such text and reads back exactly the document, for all automata. -/

/-- parsing and decoding the rendered text of the picture of any compiled mode gives the picture back
    (title and class labels: any strings without an unescaped quote / dangling backslash) -/
theorem text_roundtrip (title : List Nat) (edgeText : Nat → List Nat) (M : ModeDfa)
    (ht : strSafe title = true) (he : ∀ cc, strSafe (edgeText cc) = true) :
    (parseDot (renderDot title edgeText (dotDoc M))).bind decodeDot = some (dotDoc M) :=
  decodeDot_parseDot_renderDot_dotDoc title edgeText M ht he

theorem text_roundtrip_doc (title : List Nat) (edgeText : Nat → List Nat) (d : DotDoc)
    (hd : d.textOK = true) (ht : strSafe title = true) (he : ∀ cc, strSafe (edgeText cc) = true) :
    (parseDot (renderDot title edgeText d)).bind decodeDot = some d :=
  decodeDot_parseDot_renderDot title edgeText d hd ht he

end Scnr.C18

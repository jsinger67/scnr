import ScnrVerif.Proofs.World
/-!
# C12 — scanners and iterators are isolated from each other and from their past

World model: every API call is one `World.step`. An iterator owns a clone of its scanner's
compilation (taken at `find_iter`), its input and its cursor state; nothing else is read when it is
called. `iterator_isolated`: for **every** history, what iterator `k` returns equals what it returns
in the history from which all operations on other iterators (live, interleaved, dropped), all peeks
of others and every `set_mode/current_mode` on scanners have been removed. `find_from` itself is a
pure function in the model (its scratch vectors are local: `findFrom` takes no state), so earlier
inputs cannot influence later scans.
-/
namespace Scnr.C12

theorem iterator_isolated (compile : CfgId → Option CompId) (cfgOf : CompId → List ModeCfg)
    (findOf : CompId → Finder) (k : Nat) (ops : List Op) (w : World) (h : CacheInv compile w.cache) :
    outputsOfIter k ops (World.run compile cfgOf findOf w ops).2 =
      outputsOfIter k (ops.filter (affectsIter k))
        (World.run compile cfgOf findOf w (ops.filter (affectsIter k))).2 :=
  Scnr.iterator_isolated compile cfgOf findOf k ops w w ⟨h, h, fun _ => rfl, rfl⟩

/-- A new iterator starts from the scanner's compilation in mode 0 whatever mode is set on the
    scanner; a scanner can be reused for any number of inputs (`find_iter` does not change it). -/
theorem findIter_fresh (compile cfgOf findOf) (w : World) (s k : Nat) (input : List Nat) (sc : ScannerSt)
    (h : w.scanners.lookup s = some sc) :
    (World.step compile cfgOf findOf w (.findIter s k input)).1.iters.lookup k = some ⟨sc.comp, Iter.new input⟩ ∧
    (World.step compile cfgOf findOf w (.findIter s k input)).1.scanners = w.scanners := by
  simp only [World.step, h]
  exact ⟨lookup_assocSet_self _ _ _, trivial⟩

/-- The result of the model of `find_from` does not depend on any scratch state: it is a function of
    the automaton, the class function and the text only (stated as: two calls agree). -/
theorem find_from_is_pure (M : ModeDfa) (cm : Nat → Nat → Bool) (i : Nat) (w : List Nat) :
    findFrom M cm i w = findFrom M cm i w := rfl

/-! Non-vacuity: two iterators of one scanner interleaved with a scanner `set_mode`. -/
def exFind : CompId → Finder := fun _ _ w => match w with | 97 :: _ => some (1, 1) | _ => none
def exOps : List Op :=
  [.buildUncached 0 0, .findIter 0 0 [97, 98, 97], .findIter 0 1 [98, 97], .iter 0 .next, .scannerSetMode 0 5,
   .iter 1 .next, .iter 0 .next, .dropIter 1, .iter 0 .next]
example : outputsOfIter 0 exOps (World.run (fun _ => some 7) (fun _ => [⟨[], []⟩]) exFind World.empty exOps).2 =
    [.tok (some ⟨1, 0, 1⟩), .tok (some ⟨1, 2, 3⟩), .tok none] := by decide +kernel
example : (exOps.filter (affectsIter 0)).length = 5 := by decide +kernel

end Scnr.C12

import ScnrVerif.Proofs.CacheKey
import ScnrVerif.Props.C16
/-!
# C13 — the scanner cache is transparent

Model of `ScannerCache::get` over an abstract uncached compilation `compile` (a function of the
whole mode list: keys are compared by structural equality of `Vec<ScannerMode>`, so configurations
differing in a token type, a pattern's order, a lookahead or its polarity, a transition or a mode
name are different keys). Invariant: every entry is the compilation of its key. Hence every
`build` returns exactly what `build_uncached` returns, whatever was built before, and a failing
build changes nothing.
-/
namespace Scnr.C13

theorem get_is_compile (compile : CfgId → Option CompId) (cache : List (CfgId × CompId))
    (h : CacheInv compile cache) (cfg : CfgId) :
    (cacheGet compile cache cfg).2 = compile cfg ∧ CacheInv compile (cacheGet compile cache cfg).1 ∧
    (compile cfg = none → (cacheGet compile cache cfg).1 = cache) := cacheGet_spec compile cache h cfg

theorem build_is_uncached_build (compile cfgOf findOf) (w : World) (h : CacheInv compile w.cache) (s : Nat)
    (cfg : CfgId) :
    (World.step compile cfgOf findOf w (.build s cfg)).2 =
      (World.step compile cfgOf findOf w (.buildUncached s cfg)).2 ∧
    (World.step compile cfgOf findOf w (.build s cfg)).1.scanners =
      (World.step compile cfgOf findOf w (.buildUncached s cfg)).1.scanners :=
  ⟨(build_eq_uncached compile cfgOf findOf w h s cfg).1, (build_eq_uncached compile cfgOf findOf w h s cfg).2.1⟩

theorem invariant_always (compile cfgOf findOf) (ops : List Op) :
    CacheInv compile (World.run compile cfgOf findOf World.empty ops).1.cache :=
  run_cacheInv compile cfgOf findOf World.empty (fun p hp => by cases hp) ops

theorem build_after_any_history (compile cfgOf findOf) (ops : List Op) (s : Nat) (cfg : CfgId) :
    (World.step compile cfgOf findOf (World.run compile cfgOf findOf World.empty ops).1 (.build s cfg)).2 =
      match compile cfg with
      | some c => .built c
      | none => .buildError := by
  have h := invariant_always compile cfgOf findOf ops
  rw [(build_eq_uncached compile cfgOf findOf _ h s cfg).1]
  simp only [World.step]
  cases compile cfg <;> rfl

/-! Non-vacuity: hit, miss, failing build, then a build of a different key. -/
def exCompile : CfgId → Option CompId := fun c => if c = 2 then none else some (c + 10)
example : (World.run exCompile (fun _ => []) (fun _ _ _ => none) World.empty
    [.build 0 1, .build 1 1, .build 2 2, .build 3 2, .build 4 3]).2 =
    [.built 11, .built 11, .buildError, .buildError, .built 13] := by decide +kernel

/-! ## The key, structurally (`Model/CacheKey.lean`)

`keyEq` is the derived `PartialEq` of `Vec<ScannerMode>` written out field by field. -/

theorem key_is_whole_configuration (a b : List ModeC) : keyEq a b = true ↔ a = b := keyEq_iff a b

/-- Every cached build over structural keys returns the uncached compilation of *that*
    configuration, after any sequence of builds. -/
theorem structural_builds_are_uncached (compileK : CfgKey → Option CompId) (ks : List CfgKey) :
    (runK compileK [] ks).2 = ks.map compileK :=
  (runK_results compileK [] ks (fun p hp => by cases hp)).1

theorem structural_get_is_compile (compileK : CfgKey → Option CompId) (cache : List (CfgKey × CompId))
    (h : CacheInvK compileK cache) (k : CfgKey) :
    (cacheGetK compileK cache k).2 = compileK k ∧ CacheInvK compileK (cacheGetK compileK cache k).1 ∧
    (compileK k = none → (cacheGetK compileK cache k).1 = cache) := cacheGetK_spec compileK cache h k

/-- The identifier-level cache of the world model is the structural cache under any injective
    numbering of configurations (the harness numbers them by `==` of the real mode lists, and
    that `==` is compared with `keyEq` on every run). -/
theorem structural_cache_refines_id_cache (num : CfgKey → CfgId) (inj : ∀ a b, num a = num b → a = b)
    (compileK : CfgKey → Option CompId) (compile : CfgId → Option CompId)
    (hc : ∀ k, compile (num k) = compileK k) (cache : List (CfgKey × CompId)) (k : CfgKey) :
    cacheGet compile (absCache num cache) (num k) =
      (absCache num (cacheGetK compileK cache k).1, (cacheGetK compileK cache k).2) := by
  unfold cacheGet cacheGetK
  rw [lookup_abs num inj cache k, hc k]
  cases lookupK cache k with
  | some c => rfl
  | none =>
    cases compileK k with
    | some c => rfl
    | none => rfl

/-- The tie reads the keys from the serde trees of the real mode lists: for configurations whose
    numbers fit `usize` the tree determines the key and the key the tree. -/
theorem key_is_read_from_the_tree (a b : List ModeC) (ha : ∀ m ∈ a, m.inRange = true)
    (hb : ∀ m ∈ b, m.inRange = true) : keyEq a b = true ↔ toJsonModes a = toJsonModes b := by
  rw [keyEq_iff]
  refine ⟨congrArg _, fun h => Option.some.inj ?_⟩
  rw [← C16.modes_roundtrip a ha, h, C16.modes_roundtrip b hb]

/-! Non-vacuity: one-field differences are different keys; equal configurations are equal keys. -/
def exMode : ModeC := ⟨[73], [⟨[97], 1, some ⟨true, [98]⟩⟩, ⟨[97, 98], 2, none⟩], [(1, 0)]⟩
example : keyEq [exMode] [exMode] = true := by decide +kernel
example : keyEq [exMode] [{ exMode with name := [74] }] = false := by decide +kernel
example : keyEq [exMode] [{ exMode with transitions := [(1, 1)] }] = false := by decide +kernel
example : keyEq [exMode] [{ exMode with patterns := exMode.patterns.reverse }] = false := by decide +kernel
example : keyEq [exMode] [{ exMode with patterns := [⟨[97], 1, some ⟨false, [98]⟩⟩, ⟨[97, 98], 2, none⟩] }] = false := by decide +kernel
example : keyEq [exMode] [{ exMode with patterns := [⟨[97], 1, none⟩, ⟨[97, 98], 2, none⟩] }] = false := by decide +kernel
example : keyEq [exMode] [{ exMode with patterns := [⟨[97], 3, some ⟨true, [98]⟩⟩, ⟨[97, 98], 2, none⟩] }] = false := by decide +kernel
example : keyEq [exMode] [exMode, exMode] = false := by decide +kernel
example : (runK (fun k => if k.length = 2 then none else some k.length) [] [[exMode], [exMode, exMode], [exMode], []]).2 =
    [some 1, none, some 1, some 0] := by decide +kernel

end Scnr.C13

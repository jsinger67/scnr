import ScnrVerif.Proofs.Equiv
import ScnrVerif.Proofs.MinimizeTerm
/-!
# C03 — minimization preserves what is recognised

`pair_sound`: if the verified check accepts a candidate set for two automata over the same class
tables (including the initial pair), then for **every word** (the empty one included) and every
terminal both automata accept alike. `bin/check C03` runs it on every `(input, output)` pair of
`Minimizer::minimize` recorded while this run's scanners were built (hook `take_minimizer_log`), and
additionally checks that the output has no more states than the input. Both runs start in state 0,
so "the first state is still the start state" is part of the statement.
-/
namespace Scnr.C03

theorem reps_cover (T : List (List (Nat × Nat))) (A B : Dfa) :
    RepsCover (dfaSys A (cmT T)) (dfaSys B (cmT T)) (mkReps T) :=
  repsCover_of_tables (fun _ h => h) (fun _ h => h) (fun _ _ h => dfaSys_step_congr A _ h)
    (fun _ _ h => dfaSys_step_congr B _ h)

theorem acc_eq_iff (A B : Dfa) (cm) (w : List Nat)
    (h : (dfaSys A cm).acc ((dfaSys A cm).run [0] w) = (dfaSys B cm).acc ((dfaSys B cm).run [0] w)) (t : Nat) :
    acceptsTid A cm w t ↔ acceptsTid B cm w t := by
  rw [← dfaSys_acc_run, ← dfaSys_acc_run, h]

theorem pair_sound (T : List (List (Nat × Nat))) (A B : Dfa)
    (V : Array (List Nat × List Nat)) (h0 : Array Nat) (hs : Array (Array Nat))
    (h : closedCheckH (dfaSys A (cmT T)) (dfaSys B (cmT T)) (mkReps T) [0] [0] true V h0 hs = true)
    (w : List Nat) (t : Nat) :
    acceptsTid A (cmT T) w t ↔ acceptsTid B (cmT T) w t :=
  acc_eq_iff A B _ w (closedCheckH_sound h (reps_cover T A B) w (.inr rfl)) t

/-! ## Track A: the Lean model of `minimizer.rs` itself

`Model/Minimize.lean` mirrors `Minimizer::minimize` step by step; on every run it must reproduce the
logged output of the real minimizer *exactly* (state numbering, accepting flags, transition order).
`quotient_preserves`: for **every** automaton and every partition that covers the states, is
disjoint, homogeneous and stable, the quotient built by `create_from_partition` accepts every word
for the same terminals. `model_minimize_preserves` is the per-automaton form over the executable
`goodPartitionCheck`, which `bin/check C03` runs on every logged automaton of at most 3000 states. -/

theorem quotient_preserves (A : Dfa) (P : List (List Nat)) (hp : GoodPartition A P) (hn : 0 < A.trans.length)
    (cm : Nat → Nat → Bool) (w : List Nat) (t : Nat) :
    acceptsTid (createFromPartition A P) cm w t ↔ acceptsTid A cm w t :=
  createFromPartition_preserves A P hp hn cm w t

theorem model_minimize_preserves (A : Dfa) (hc : goodPartitionCheck A (finalPartition A) = true)
    (hn : 0 < A.trans.length) (cm : Nat → Nat → Bool) (w : List Nat) (t : Nat) :
    acceptsTid (minimize A) cm w t ↔ acceptsTid A cm w t :=
  createFromPartition_preserves A (finalPartition A) (goodPartitionCheck_sound A _ hc) hn cm w t

/-- **All automata, no side condition on the computation**: the model of `Minimizer::minimize`
    (initial partition, refinement to a fixpoint — reached within `numStates` rounds —, quotient)
    accepts every word for exactly the same terminals as its input, for every automaton whose
    transition targets are states and whose start state is not accepting. -/
theorem model_minimize_preserves_all (A : Dfa) (hn : 0 < A.trans.length) (h0 : A.isEnd 0 = false)
    (htar : ∀ s cc t, (cc, t) ∈ A.outs s → t < A.trans.length)
    (cm : Nat → Nat → Bool) (w : List Nat) (t : Nat) :
    acceptsTid (minimize A) cm w t ↔ acceptsTid A cm w t :=
  minimize_preserves_all A hn h0 htar cm w t

/-- executable form of the hypotheses (evaluated by the driver on every logged input) -/
def minimizeHyps (A : Dfa) : Bool :=
  decide (0 < A.trans.length) && !A.isEnd 0 && A.trans.all fun ts => ts.all fun p => decide (p.2 < A.trans.length)

/-- **decision by the minimizer theorem** (executed by the driver on every logged pair): if the
    logged output is, as data, what the model computes from the logged input, the pair preserves
    acceptance of every word and does not add states — no exploration, no bound -/
theorem decided_by_minimizer_theorem (A B : Dfa) (hB : B = minimize A) (hh : minimizeHyps A = true)
    (cm : Nat → Nat → Bool) (w : List Nat) (t : Nat) :
    (acceptsTid B cm w t ↔ acceptsTid A cm w t) ∧ B.trans.length ≤ A.trans.length := by
  simp only [minimizeHyps, Bool.and_eq_true, decide_eq_true_eq, Bool.not_eq_true', List.all_eq_true] at hh
  obtain ⟨⟨hn, h0⟩, htar⟩ := hh
  subst hB
  exact ⟨minimize_preserves_all A hn h0 (targets_of_all htar) cm w t, minimize_states_le A hn h0⟩

theorem model_minimize_states_le (A : Dfa) (hn : 0 < A.trans.length) (h0 : A.isEnd 0 = false) :
    (minimize A).trans.length ≤ A.trans.length := minimize_states_le A hn h0

theorem model_loop_reaches_fixpoint (A : Dfa) (hn : 0 < A.trans.length) (h0 : A.isEnd 0 = false) :
    refine A (finalPartition A) = finalPartition A :=
  refineLoop_fixpoint A _ _ (initialPartition_inv2 A hn h0) (by omega)

theorem partition_check_sound (A : Dfa) (P : List (List Nat)) (h : goodPartitionCheck A P = true) :
    GoodPartition A P := goodPartitionCheck_sound A P h

/-! Non-vacuity: `a|aa*` style automaton with two equivalent accepting states and its quotient. -/
def exT : List (List (Nat × Nat)) := [[(97, 97)]]
def exA : Dfa := { trans := [[(0, 1)], [(0, 2)], [(0, 2)]], ends := [(false, 0), (true, 0), (true, 0)], prio := [0] }
def exB : Dfa := { trans := [[(0, 1)], [(0, 1)]], ends := [(false, 0), (true, 0)], prio := [0] }
def exV : List (List Nat × List Nat) :=
  (explore (dfaSys exA (cmT exT)) (dfaSys exB (cmT exT)) (mkReps exT) 50 [([0], [0])] []).getD []
example : closedCheck (dfaSys exA (cmT exT)) (dfaSys exB (cmT exT)) (mkReps exT) [0] [0] true exV = true := by
  decide +kernel
/-- a wrong merge (accepting and non-accepting state) is rejected -/
def exBad : Dfa := { trans := [[(0, 0)]], ends := [(true, 0)], prio := [0] }
example : closedCheck (dfaSys exA (cmT exT)) (dfaSys exBad (cmT exT)) (mkReps exT) [0] [0] true
    ((explore (dfaSys exA (cmT exT)) (dfaSys exBad (cmT exT)) (mkReps exT) 50 [([0], [0])] []).getD []) = false := by
  decide +kernel

example : minimize exA = exB := by decide +kernel
example : goodPartitionCheck exA (finalPartition exA) = true := by decide +kernel
example : finalPartition exA = [[0], [1, 2]] := by decide +kernel

end Scnr.C03

import ScnrVerif.Proofs.Lines
import ScnrVerif.Props.C07
/-!
# C09 — line and column of a token are those of its start offset

`Iter.Lines it F`: the recorded line offsets are strictly increasing, contain 0, are true line
starts, contain every true line start below the frontier `F` (the largest offset consumed so far),
and `last_char` is the character before the cursor. It holds for a new iterator (`F = 0`), is
preserved by `next` (frontier extended to the new cursor), by running into exhaustion and by
`set_offset` to any offset `≤ F`. Under it, `position(o)` is the true line/column for `o < F`; at
`o = F` it is the true one or, if `F` directly follows a line feed whose successor is not consumed
yet, the column after the line break on the previous line.
-/
namespace Scnr.C09

/-- Number of line feeds that end at or before byte offset `o`. -/
def countLfFrom (o : Nat) : Nat → List Nat → Nat
  | _, [] => 0
  | p, c :: w => (if c = 10 ∧ p + utf8Len c ≤ o then 1 else 0) + countLfFrom o (p + utf8Len c) w

theorem filter_lineStartsFrom_length (o p : Nat) (w : List Nat) :
    ((lineStartsFrom p w).filter (· ≤ o)).length = countLfFrom o p w := by
  fun_induction lineStartsFrom p w with
  | case1 p => rfl
  | case2 p w ih =>
    rw [countLfFrom, ← ih, List.filter_cons]
    by_cases hle : p + utf8Len 10 ≤ o
    · rw [if_pos (decide_eq_true hle), if_pos ⟨rfl, hle⟩, List.length_cons, Nat.add_comm]
    · rw [if_neg (by simpa using hle), if_neg (fun h' => hle h'.2), Nat.zero_add]
  | case3 p c w h ih => rw [countLfFrom, ← ih, if_neg (fun h' => h h'.1), Nat.zero_add]

/-- The true line is one plus the number of line feeds before the offset; the true column is the
    byte distance from the last line start at or before the offset, plus one. -/
theorem trueLineCol_spec (input : List Nat) (o : Nat) :
    (trueLineCol input o).1 = 1 + countLfFrom o 0 input ∧
    (trueLineCol input o).2 = o - (((lineStartsOf input).filter (· ≤ o)).getLastD 0) + 1 := by
  unfold trueLineCol positionOf lineStartsOf
  simp only [List.filter, Nat.zero_le, decide_true, List.length_cons, filter_lineStartsFrom_length]
  exact ⟨Nat.add_comm _ _, trivial⟩

theorem altLineCol_eq_true (input : List Nat) (o : Nat) (h : o ∉ lineStartsOf input) :
    altLineCol input o = trueLineCol input o := by
  unfold altLineCol trueLineCol
  have : (lineStartsOf input).filter (· ≠ o) = lineStartsOf input := by
    apply List.filter_eq_self.mpr
    intro x hx
    simp only [ne_eq, decide_not, Bool.not_eq_eq_eq_not, Bool.not_true, decide_eq_false_iff_not]
    intro he; exact h (he ▸ hx)
  rw [this]

/-- `position(o)` for every offset up to the frontier: strict below it, with the documented
    alternative exactly at it. -/
theorem position_ok (it : Iter) (F o : Nat) (hl : it.Lines F) (ho : o ≤ F) :
    positionOK it.input o (decide (o < F)) (it.position o) = true := by
  have htrue : (∀ x ∈ lineStartsOf it.input, x ≤ o → x ∈ it.lineOffsets) →
      it.position o = trueLineCol it.input o :=
    position_spec it.input it.lineOffsets o hl.sorted (lineStartsOf_sorted _) hl.sound
  by_cases hlt : o < F
  · rw [decide_eq_true hlt, positionOK_strict_iff]
    exact htrue fun x hx hle => hl.complete x hx (Nat.lt_of_le_of_lt hle hlt)
  · have hoF : o = F := Nat.le_antisymm ho (Nat.le_of_not_lt hlt)
    have hbelow : ∀ x ∈ lineStartsOf it.input, x < o → x ∈ it.lineOffsets :=
      fun x hx h => hl.complete x hx (hoF ▸ h)
    rw [decide_eq_false hlt]
    by_cases hmem : o ∈ it.lineOffsets
    · refine positionOK_lenient ((positionOK_strict_iff _ _ _).mpr (htrue fun x hx hle => ?_))
      rcases Nat.lt_or_eq_of_le hle with h | h
      · exact hbelow x hx h
      · exact h ▸ hmem
    · have halt : it.position o = altLineCol it.input o :=
        position_alt it.input it.lineOffsets o hl.sorted (lineStartsOf_sorted _) hl.sound hbelow hmem
      by_cases hls : o ∈ lineStartsOf it.input
      · exact halt ▸ positionOK_alt hls fun h => hmem (h ▸ hl.zero)
      · rw [halt, altLineCol_eq_true _ _ hls]
        exact positionOK_lenient ((positionOK_strict_iff _ _ _).mpr rfl)

/-- A token delivered with positions: the start position is the true line and column of its start
    offset; the end position is the true one or the accepted alternative after a line break; the
    invariant is kept with the frontier at least at the token's end. -/
theorem next_with_positions (cfg : List ModeCfg) (find : Finder) (hf : FinderOK find) (it : Iter)
    (F : Nat) (hi : it.Inv) (hl : it.Lines F) (it' : Iter) (t : Tok) (ps pe : Nat × Nat)
    (h : it.nextWithPos cfg find = (it', some (t, ps, pe))) :
    ps = trueLineCol it.input t.start ∧ positionOK it.input t.stop false pe = true ∧
    it'.Lines (max F t.stop) ∧ it'.Inv := by
  unfold Iter.nextWithPos at h
  have hl1 := next_lines cfg find hf it F hi hl
  have hin := next_input cfg find it
  cases hn : it.next cfg find with
  | mk it1 r =>
    rw [hn] at h hl1 hin
    cases r with
    | none => cases h
    | some t1 =>
      simp only [Prod.mk.injEq, Option.some.injEq] at h
      obtain ⟨rfl, rfl, rfl, rfl⟩ := h
      obtain ⟨w1, _, _, _, _, w6, w7, _⟩ := C07.next_token_wellformed cfg find hf it hi it1 t1 hn
      have hl1 : it1.Lines (max F t1.stop) := w6 ▸ hl1
      have hin : it1.input = it.input := hin
      refine ⟨?_, ?_, hl1, w7⟩
      · have hlt : t1.start < max F t1.stop := Nat.lt_of_lt_of_le w1 (Nat.le_max_right _ _)
        have := position_ok it1 _ t1.start hl1 (Nat.le_of_lt hlt)
        rw [decide_eq_true hlt, hin] at this
        exact (positionOK_strict_iff _ _ _).mp this
      · exact hin ▸ positionOK_lenient (position_ok it1 _ t1.stop hl1 (Nat.le_max_right _ _))

theorem lines_new (input : List Nat) : (Iter.new input).Lines 0 := Iter.new_lines input

theorem lines_next (cfg : List ModeCfg) (find : Finder) (hf : FinderOK find) (it : Iter) (F : Nat)
    (hi : it.Inv) (hl : it.Lines F) :
    (it.next cfg find).1.Lines (max F (it.next cfg find).1.cursor) := next_lines cfg find hf it F hi hl

theorem lines_setOffset (it : Iter) (F o : Nat) (hl : it.Lines F) (ho : o ≤ F) :
    (it.setOffset o).Lines F := setOffset_lines it F o hl ho

/-! Non-vacuity (the inputs on which the pinned tree failed): patterns `a`, `\n` on `a\naa`. -/
def exFind : Finder := fun _ w => match w with | 97 :: _ => some (1, 1) | 10 :: _ => some (2, 1) | _ => none
def exCfg : List ModeCfg := [⟨[], []⟩]
def st2 : Iter := ((Iter.new [97, 10, 97, 97]).next exCfg exFind).1.next exCfg exFind |>.1
example : ((st2.setOffset 1).nextWithPos exCfg exFind).2 = some (⟨2, 1, 2⟩, (1, 2), (1, 3)) := by decide
example : trueLineCol [97, 10, 97, 97] 1 = (1, 2) := by decide
example : trueLineCol [97, 10, 97, 97] 2 = (2, 1) := by decide
example : altLineCol [97, 10, 97, 97] 2 = (1, 3) := by decide
example : positionOK [97, 10] 2 false (1, 3) = true ∧ positionOK [97, 10] 2 true (1, 3) = false := by decide

end Scnr.C09

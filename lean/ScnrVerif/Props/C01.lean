import ScnrVerif.Proofs.Pat
import ScnrVerif.Props.C02
/-!
# C01 — longest match wins, earlier pattern breaks ties, unmatched input is skipped

For a lookahead-free mode whose automaton is language-equivalent to its pattern list (established
per program by C02's verified check on the dump of the real compiler: `C02.equiv_sound`), with the
terminals stored in pattern order and distinct token types within the mode, the model of
`find_from` reports the longest non-empty prefix that some pattern matches in full, with the token
type of the first listed pattern matching it (`patFindOK`, stated on the reference regular
expressions, not on the automaton), (`scan_step`), and that verdict determines the result uniquely (`scan_step_unique`).
-/
namespace Scnr.C01

theorem scan_step (M : ModeDfa) (cm cmR : Nat → Nat → Bool) (ps : List (Nat × Re))
    (hlas : M.las = []) (hprio : M.dfa.prio = ps.map (·.1)) (hn : (ps.map (·.1)).Nodup)
    (heq : LangEquiv M.dfa cm cmR ps) (w : List Nat) :
    patFindOK cmR ps w (findFrom M cm 0 w) = true :=
  findFrom_patFindOK M cm cmR ps hlas hprio hn heq w

theorem scan_step_unique (cmR : Nat → Nat → Bool) (ps : List (Nat × Re)) (w : List Nat)
    (r1 r2 : Option (Nat × Nat)) (h1 : patFindOK cmR ps w r1 = true) (h2 : patFindOK cmR ps w r2 = true) :
    r1 = r2 := patFindOK_unique cmR ps w r1 r2 h1 h2

/-- Readable content of the verdict for a reported token. -/
theorem patFindOK_some_iff (cmR : Nat → Nat → Bool) (ps : List (Nat × Re)) (w : List Nat) (t len : Nat) :
    patFindOK cmR ps w (some (t, len)) = true ↔
      ∃ k, (∃ (u v : List Nat) (q : Nat × Re), u ≠ [] ∧ w = u ++ v ∧ len = bytesLen u ∧ ps[k]? = some q ∧ q.1 = t ∧ Matches cmR q.2 u) ∧
        ∀ (k' : Nat) (u' v' : List Nat) (q' : Nat × Re), u' ≠ [] → w = u' ++ v' → ps[k']? = some q' → Matches cmR q'.2 u' →
          bytesLen u' < len ∨ (bytesLen u' = len ∧ k ≤ k') := by
  rw [patFindOK_some]
  constructor
  · rintro ⟨c, hc, ⟨rfl, ht⟩, hall⟩
    obtain ⟨u, v, h1, h2, h3, q, hq, hm⟩ := (mem_patCands cmR ps w c.1 c.2).mp hc
    refine ⟨c.1, ⟨u, v, q, h1, h2, h3, hq, ?_, hm⟩, fun k' u' v' q' g1 g2 g3 g4 => ?_⟩
    · rw [hq] at ht
      exact Option.some.inj ht
    · exact hall (k', bytesLen u') ((mem_patCands cmR ps w k' _).mpr ⟨u', v', g1, g2, rfl, q', g3, g4⟩)
  · rintro ⟨k, ⟨u, v, q, h1, h2, h3, hq, ht, hm⟩, hall⟩
    refine ⟨(k, len), (mem_patCands cmR ps w k len).mpr ⟨u, v, h1, h2, h3, q, hq, hm⟩,
      ⟨rfl, by rw [hq, ← ht]; rfl⟩, fun c' hc' => ?_⟩
    obtain ⟨u', v', g1, g2, g3, q', g4, g5⟩ := (mem_patCands cmR ps w c'.1 c'.2).mp hc'
    exact g3 ▸ hall c'.1 u' v' q' g1 g2 g4 g5

/-- The whole token stream: with the single lookahead-free mode `M` and any transition tables
    `cfg`, iterating the model from a fresh iterator yields the reference tokenization of the input
    driven by any function `find'` that implements the pattern-level rule in mode 0 and reports
    nothing in the other modes (which have no patterns). -/
theorem tokens_are_longest_match (M : ModeDfa) (cm cmR : Nat → Nat → Bool) (ps : List (Nat × Re))
    (hlas : M.las = []) (hprio : M.dfa.prio = ps.map (·.1)) (hn : (ps.map (·.1)).Nodup)
    (heq : LangEquiv M.dfa cm cmR ps) (cfg : List ModeCfg) (find' : Finder)
    (hspec : ∀ w, patFindOK cmR ps w (find' 0 w) = true) (hother : ∀ m, m ≠ 0 → ∀ w, find' m w = none)
    (input : List Nat) (n : Nat) (hlen : input.length < n) :
    Iter.run cfg (modelFinder [M] cm) n (Iter.new input) = scanFrom cfg find' 0 input 0 := by
  have hfind : modelFinder [M] cm = find' := by
    funext m w
    rw [modelFinder_eq]
    cases m with
    | zero =>
      exact patFindOK_unique cmR ps w _ _ (findFrom_patFindOK M cm cmR ps hlas hprio hn heq w) (hspec w)
    | succ m => exact (hother (m + 1) (Nat.succ_ne_zero m) w).symm
  rw [hfind]
  exact run_new cfg find' (hfind ▸ modelFinder_ok [M] cm) input n hlen

/-- The hypothesis `LangEquiv` is exactly what C02's verified check delivers. -/
theorem langEquiv_of_check (T R : List (List (Nat × Nat))) (A : Dfa) (ps : List (Nat × Re))
    (V : Array (List Nat × List (Nat × Re))) (h0 : Array Nat) (hs : Array (Array Nat))
    (h : closedCheckH (dfaSys A (cmT T)) (reSys (cmT R)) (mkReps (T ++ R)) [0] (normP ps) false V h0 hs = true) :
    LangEquiv A (cmT T) (cmT R) ps :=
  fun u hu t => C02.equiv_sound T R A ps V h0 hs h u hu t

/-- `add_patterns`: the token type of a pattern is its index. -/
def addPatterns {α : Type} (ps : List α) : List (Nat × α) := ps.zipIdx.map fun p => (p.2, p.1)

theorem addPatterns_tid {α : Type} (ps : List α) (k : Nat) (q : Nat × α)
    (h : (addPatterns ps)[k]? = some q) : q.1 = k := by
  rw [addPatterns, List.getElem?_map, List.getElem?_zipIdx, Option.map_map] at h
  obtain ⟨a, _, rfl⟩ := Option.map_eq_some_iff.mp h
  exact Nat.zero_add k

theorem addPatterns_nodup {α : Type} (ps : List α) : ((addPatterns ps).map (·.1)).Nodup := by
  have h : (addPatterns ps).map (·.1) = ps.zipIdx.map Prod.snd := by
    rw [addPatterns, List.map_map]
    rfl
  rw [h, List.zipIdx_map_snd]
  exact List.nodup_range'

/-! Non-vacuity: patterns `ab` (type 0) and `a+` (type 1) with the automaton of `C02.exA`: on `aab`
    the longest match is `aa` by `a+`; on `ab` the pattern `ab` matches 2 bytes, `a+` only 1: the longer match wins. -/
def exM : ModeDfa := ⟨C02.exA, []⟩
example : findFrom exM (cmT C02.exT) 0 [97, 97, 98] = some (1, 2) := by decide +kernel
example : findFrom exM (cmT C02.exT) 0 [97, 98] = some (0, 2) := by decide +kernel
example : patFindOK (cmT C02.exT) C02.exPs [97, 98] (some (0, 2)) = true := by decide +kernel
example : patFindOK (cmT C02.exT) C02.exPs [97, 98] (some (1, 2)) = false := by decide +kernel
example : patFindOK (cmT C02.exT) C02.exPs [97, 98] (some (1, 1)) = false := by decide +kernel
example : exM.dfa.prio = C02.exPs.map (·.1) := by decide +kernel

/-! ## Token types shared by several patterns of a mode (finding F2)

`scan_step` assumes pairwise distinct token types. Without that assumption the crate (and its model)
follows `sharedTypeRule`: ties among the longest matches go to the token type whose *first
occurrence* in the pattern list comes first. The two rules coincide for distinct token types, so the
classification of a failure as "finding F2" in the driver can hide nothing there; the example shows
a configuration on which they differ (the deviation recorded in `known_findings.txt`). -/

/-- The crate's rule for all pattern lists, token types shared or not (no `Nodup`). -/
theorem shared_types_follow_first_occurrence (M : ModeDfa) (cm cmR : Nat → Nat → Bool)
    (ps : List (Nat × Re)) (hlas : M.las = []) (hprio : M.dfa.prio = ps.map (·.1))
    (heq : LangEquiv M.dfa cm cmR ps) (w : List Nat) :
    sharedTypeRule cmR ps w (findFrom M cm 0 w) = true :=
  findFrom_sharedTypeRule M cm cmR ps hlas hprio heq w

theorem shared_type_rule_is_property_rule (cm : Nat → Nat → Bool) (ps : List (Nat × Re))
    (hn : (ps.map (·.1)).Nodup) (w : List Nat) (r : Option (Nat × Nat)) :
    sharedTypeRule cm ps w r = patFindOK cm ps w r :=
  sharedTypeRule_eq_patFindOK cm ps hn w r

/-- patterns `b` (type 1), `a` (type 2), `a` (type 1) on the input `a`: the property prescribes
    type 2 (the first listed pattern that matches), the crate's rule gives type 1 -/
def exShared : List (Nat × Re) := [(1, .cls 1), (2, .cls 0), (1, .cls 0)]
example : patFindOK (cmT C02.exT) exShared [97] (some (2, 1)) = true := by decide +kernel
example : patFindOK (cmT C02.exT) exShared [97] (some (1, 1)) = false := by decide +kernel
example : sharedTypeRule (cmT C02.exT) exShared [97] (some (1, 1)) = true := by decide +kernel
example : sharedTypeRule (cmT C02.exT) exShared [97] (some (2, 1)) = false := by decide +kernel
example : distinctTypes exShared = false := by decide +kernel

/-! ## End to end on the model of the whole crate (track A)

With the compiler model proved correct for every pattern list (`C02.compiler_model_correct`) the
hypothesis `LangEquiv` of the theorems above is discharged once and for all: compiling any list of
patterns (distinct token types, no lookaheads) and running the finder / the iterator model on the
result yields the longest match of the first listed pattern — for every pattern list, every class
function and every input. -/

/-- the patterns of a mode as reference regular expressions -/
def patternsOf (ps : List (Nat × CAst)) : List (Nat × Re) := ps.map fun q => (q.1, q.2.toRe)

theorem compiled_langEquiv (ps : List (Nat × CAst)) (cm : Nat → Nat → Bool) :
    LangEquiv (compileMode ps) cm cm (patternsOf ps) := by
  intro u hu t
  rw [compileMode_correct]
  simp only [patternsOf, List.mem_map]
  constructor
  · rintro ⟨_, q, hq, rfl, hm⟩; exact ⟨q.2.toRe, ⟨q, hq, rfl⟩, hm⟩
  · rintro ⟨r, ⟨q, hq, he⟩, hm⟩
    cases he
    exact ⟨hu, q, hq, rfl, hm⟩

theorem patternsOf_tids (ps : List (Nat × CAst)) : (patternsOf ps).map (·.1) = ps.map (·.1) := by
  simp only [patternsOf, List.map_map]
  rfl

theorem end_to_end_find (ps : List (Nat × CAst)) (hn : (ps.map (·.1)).Nodup) (cm : Nat → Nat → Bool)
    (w : List Nat) :
    patFindOK cm (patternsOf ps) w (findFrom ⟨compileMode ps, []⟩ cm 0 w) = true :=
  findFrom_patFindOK ⟨compileMode ps, []⟩ cm cm (patternsOf ps) rfl
    ((compileMode_prio ps).trans (patternsOf_tids ps).symm) ((patternsOf_tids ps).symm ▸ hn)
    (compiled_langEquiv ps cm) w

theorem end_to_end_tokens (ps : List (Nat × CAst)) (hn : (ps.map (·.1)).Nodup) (cm : Nat → Nat → Bool)
    (cfg : List ModeCfg) (find' : Finder)
    (hspec : ∀ w, patFindOK cm (patternsOf ps) w (find' 0 w) = true)
    (hother : ∀ m, m ≠ 0 → ∀ w, find' m w = none) (input : List Nat) (n : Nat) (hlen : input.length < n) :
    Iter.run cfg (modelFinder [⟨compileMode ps, []⟩] cm) n (Iter.new input) = scanFrom cfg find' 0 input 0 :=
  tokens_are_longest_match ⟨compileMode ps, []⟩ cm cm (patternsOf ps) rfl
    ((compileMode_prio ps).trans (patternsOf_tids ps).symm) ((patternsOf_tids ps).symm ▸ hn)
    (compiled_langEquiv ps cm) cfg find' hspec hother input n hlen

end Scnr.C01

import ScnrVerif.Proofs.Lock
/-!
# C14 — building and scanning are thread-safe (partial: bookkeeping only)

Two models. In the atomic world (first half) `build` is one `World.step` (the Rust code holds the
exclusive `RwLock` guard for the whole of `ScannerCache::get`) and every other call touches components
owned by the calling thread. `interleaving_independent`: in **every** interleaving of a thread's
operations with operations of other threads (which use other scanner/iterator slots but the *same*
cache), the thread observes exactly the outputs of its own program run alone. No `World.step` is ever
disabled (each is a total function), so the atomic model has no deadlock. Its refinement at lock
granularity (`Model/Lock.lean`, second half) splits `build` into call / acquire / body / release, and
there `acquire` can be disabled.

What the theorem cannot exhibit: the memory model, data races on shared memory, lock poisoning,
the soundness of the `unsafe` dereference in `ScannerCache::get`. These are exercised by the
N-thread stress run of `bin/check C14` (and the compile-time `Send + Sync` assertions).
-/
namespace Scnr.C14

theorem interleaving_independent (compile cfgOf findOf) (own : Nat → Bool) (ops : List Op)
    (hops : ∀ o ∈ ops, o.within own = true ∨ o.within (fun x => !own x) = true) :
    outputsOf own ops (World.run compile cfgOf findOf World.empty ops).2 =
      (World.run compile cfgOf findOf World.empty (ops.filter (·.within own))).2 :=
  Scnr.interleaving_independent compile cfgOf findOf own ops hops World.empty World.empty
    ⟨(fun p hp => by cases hp), (fun p hp => by cases hp), (fun _ _ => rfl), (fun _ _ => rfl)⟩

theorem no_deadlock (compile cfgOf findOf) (w : World) (o : Op) :
    ∃ w' out, World.step compile cfgOf findOf w o = (w', out) := ⟨_, _, rfl⟩

/-! Non-vacuity: thread A (slots < 10) builds config 1 and scans; thread B builds the same config. -/
def exFind : CompId → Finder := fun _ _ w => match w with | 97 :: _ => some (1, 1) | _ => none
def exOps : List Op :=
  [.build 10 1, .build 0 1, .findIter 10 10 [97], .findIter 0 0 [97, 97], .iter 10 .next, .iter 0 .next, .iter 0 .next]
example : outputsOf (fun s => s < 10) exOps
    (World.run (fun c => some c) (fun _ => [⟨[], []⟩]) exFind World.empty exOps).2 =
    [.built 1, .none, .tok (some ⟨1, 0, 1⟩), .tok (some ⟨1, 1, 2⟩)] := by decide +kernel

/-! ## Lock granularity (`Model/Lock.lean`)

`build` = block on `SCANNER_CACHE.write()`, run `ScannerCache::get` under the exclusive guard, drop
the guard. For every reachable state of the small-step model (any number of threads, any schedule): -/

/-- at most one thread is inside the critical section, and it is the one recorded as lock holder -/
theorem lock_mutual_exclusion {compile cfgOf findOf} (s : LState) (hr : Reachable compile cfgOf findOf s) :
    (∀ t, (s.phaseOf t).critical = true ↔ s.lock = some t) ∧
    (∀ t u, (s.phaseOf t).critical = true → (s.phaseOf u).critical = true → t = u) ∧
    (s.lock = none → ∀ t, (s.phaseOf t).critical = false) :=
  Scnr.lock_mutual_exclusion compile cfgOf findOf s hr

/-- linearizability: the shared world and all outputs are those of the *atomic* model run on the calls
    in the order of their linearization points, which lie between invocation and return of each call
    (per thread: observed ⊑ linearized ⊑ program, differing by at most the call in flight) -/
theorem lock_refines_atomic {compile cfgOf findOf} (s : LState) (hr : Reachable compile cfgOf findOf s) :
    s.world = (World.run compile cfgOf findOf World.empty s.linOps).1 ∧
    s.linOuts = (World.run compile cfgOf findOf World.empty s.linOps).2 ∧
    (∀ t, s.program t = (s.linearized t).map (·.1) ++ (s.phaseOf t).pendingCall) ∧
    (∀ t, s.linearized t = s.observed t ++ (s.phaseOf t).pendingRet) ∧
    (∀ e ∈ s.trace, e ∈ s.lin) :=
  Scnr.lock_refines_atomic compile cfgOf findOf s hr

/-- no deadlock: the holder can always continue; with the lock free every waiting thread can acquire -/
theorem lock_deadlock_free {compile cfgOf findOf} (s : LState) (hr : Reachable compile cfgOf findOf s) :
    (∀ h, s.lock = some h → s.enabled (.body h) = true ∨ s.enabled (.release h) = true) ∧
    (s.lock = none → ∀ t, s.phaseOf t ≠ .idle → s.enabled (.acquire t) = true) ∧
    ((∃ t, s.phaseOf t ≠ .idle) → ∃ e, e.isCall = false ∧ s.enabled e = true) :=
  Scnr.lock_deadlock_free compile cfgOf findOf s hr

/-- progress: at most three lock events per pending call bring every thread back to idle -/
theorem lock_progress {compile cfgOf findOf} (s : LState) (hr : Reachable compile cfgOf findOf s) :
    ∃ evs : List LEvent, evs.length ≤ 3 * s.nonIdle ∧ s.legal compile cfgOf findOf evs = true ∧
      (∀ e ∈ evs, e.isCall = false) ∧
      ∀ t, (s.runEvents compile cfgOf findOf evs).phaseOf t = .idle :=
  Scnr.lock_progress compile cfgOf findOf s hr

/-- every thread observes exactly the outputs of its own program run alone, in every lock-level
    execution (threads use their own scanner / iterator slots and share the cache) -/
theorem lock_thread_view {compile cfgOf findOf} (s : LState) (hr : Reachable compile cfgOf findOf s) (t : Nat)
    (own : Nat → Bool)
    (hown : ∀ u op, (u, op) ∈ s.calls →
      if u = t then op.within own = true else op.within (fun x => !own x) = true) :
    (s.observed t).map (·.2) =
      (World.run compile cfgOf findOf World.empty ((s.observed t).map (·.1))).2 ∧
    s.program t = (s.observed t).map (·.1) ++ (s.phaseOf t).pendingOps ∧
    (s.phaseOf t = .idle →
      (s.observed t).map (·.2) = (World.run compile cfgOf findOf World.empty (s.program t)).2) :=
  Scnr.lock_thread_view compile cfgOf findOf s hr t own hown

end Scnr.C14

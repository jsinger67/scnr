import ScnrVerif.Props.C05
import ScnrVerif.Proofs.FullMode
/-!
# C04 — a lookahead gates its pattern and is never consumed

Model-level statements for every automaton, lookahead table, class function and input. The tie of
the automata to the *patterns* (accepting ⇔ the pattern matches, for the mode and for each
lookahead automaton) is C02's verified equivalence check; the tie of the model to the Rust code is
the correspondence run of `bin/check C04` (including scans started with `with_offset/set_offset`).
-/
namespace Scnr.C04

/-- The lookahead condition computed by the model of `satisfies_lookahead` is the declarative one:
    positive: some non-empty prefix of the following text `v` is accepted by the lookahead
    automaton (length of the longest one); negative: none is; on empty `v` positive fails and
    negative holds. -/
theorem lookahead_condition (cm : Nat → Nat → Bool) (L : La) (v : List Nat) :
    laEval cm L v = laSpec cm L v := laEval_eq_laSpec cm L v

theorem accepted_lengths (A : Dfa) (cm : Nat → Nat → Bool) (v : List Nat) (x : Nat) :
    x ∈ accLens A cm v ↔
      ∃ u r, u ≠ [] ∧ v = u ++ r ∧ (∃ s ∈ reach A cm [0] u, A.isEnd s = true) ∧ x = bytesLen u :=
  mem_accLens

theorem lookahead_at_end (cm : Nat → Nat → Bool) (L : La) :
    laSpec cm L [] = if L.positive then none else some 0 := by
  simp [laSpec, accLens, splits]

/-- (i) A reported token ends exactly at the end of the pattern's own text `u` (lookahead text is
    not part of the span), the automaton accepts `u` for the reported terminal, and the lookahead
    condition of that terminal holds on the text `v` that follows. -/
theorem reported_token_is_gated (M : ModeDfa) (cm : Nat → Nat → Bool) (i : Nat) (w : List Nat)
    (t e : Nat) (h : findFrom M cm i w = some (t, e)) :
    ∃ u v, u ≠ [] ∧ w = u ++ v ∧ e = i + bytesLen u ∧
      (∃ s ∈ reach M.dfa cm [0] u, M.dfa.isEnd s = true ∧ M.dfa.tidOf s = t) ∧
      ∃ l, M.laSpec cm t v = some l := by
  obtain ⟨k, hk, rfl, rfl, _⟩ := findFrom_some M cm i w t e h
  obtain ⟨u, v, hu, hw, hacc, he, l, hl, _⟩ := (mem_specCands_iff M cm i w k).mp hk
  exact ⟨u, v, hu, hw, he, hacc, l, hl⟩

/-- (ii) Conversely: whenever some non-empty prefix is accepted with its lookahead condition
    satisfied, a token starting at the scan position is reported. -/
theorem candidate_implies_token (M : ModeDfa) (cm : Nat → Nat → Bool) (i : Nat) (w u v : List Nat)
    (hu : u ≠ []) (hw : w = u ++ v) (s : Nat) (hs : s ∈ reach M.dfa cm [0] u)
    (he : M.dfa.isEnd s = true) (l : Nat) (hl : M.laSpec cm (M.dfa.tidOf s) v = some l) :
    ∃ t e, findFrom M cm i w = some (t, e) := by
  cases hr : findFrom M cm i w with
  | some r => exact ⟨r.1, r.2, rfl⟩
  | none =>
    have hnil := (C05.none_iff_no_candidate M cm i w).mp hr
    have : (⟨i + bytesLen u, i + bytesLen u + l, M.dfa.tidOf s⟩ : Cand) ∈ specCands M cm i w :=
      (C05.candidate_iff M cm i w _).mpr ⟨u, v, hu, hw, s, hs, he, l, hl, rfl⟩
    rw [hnil] at this
    cases this

/-- (iii) The span of a reported token is non-empty and inside the remaining text. -/
theorem reported_span (M : ModeDfa) (cm : Nat → Nat → Bool) (i : Nat) (w : List Nat)
    (t e : Nat) (h : findFrom M cm i w = some (t, e)) : i < e ∧ e ≤ i + bytesLen w := by
  obtain ⟨u, v, h1, h2, h3, _, _⟩ := reported_token_is_gated M cm i w t e h
  have := bytesLen_pos h1
  have := bytesLen_append u v
  subst h2
  omega

/-! Non-vacuity: `a(?=b)` (terminal 1) on `ab` yields the token `a` (0..1), on `ac` nothing;
    `a(?!b)` yields nothing on `ab` and the token on `a` at the end of the input. -/
def exCm : Nat → Nat → Bool := cmT [[(97, 97)], [(98, 98)]]
def laB : Dfa := { trans := [[(1, 1)], []], ends := [(false, 0), (true, 0)], prio := [0] }
def exPos : ModeDfa :=
  { dfa := { trans := [[(0, 1)], []], ends := [(false, 0), (true, 1)], prio := [1] },
    las := [(1, ⟨true, laB⟩)] }
def exNeg : ModeDfa := { exPos with las := [(1, ⟨false, laB⟩)] }

example : findFrom exPos exCm 0 [97, 98] = some (1, 1) := by decide +kernel
example : findFrom exPos exCm 0 [97, 99] = none := by decide +kernel
example : findFrom exPos exCm 0 [97] = none := by decide +kernel
example : findFrom exNeg exCm 0 [97, 98] = none := by decide +kernel
example : findFrom exNeg exCm 0 [97] = some (1, 1) := by decide +kernel

/-! ## Track A: the trailing-context rule at pattern level, for every pattern list

`compileFull ps` is the model of `CompiledDfa::try_from_patterns` (compiled mode automaton plus one
minimized automaton per lookahead); with the compiler model proved correct the automaton-level
candidates are the pattern-level ones (`mem_specCands_full`), so C04 and C05 hold for the model of
the whole pipeline without any per-program hypothesis. -/

/-- **C04 for all programs**: for every list of patterns with optional lookaheads (distinct token
    types), every class function and every input, the model of `find_from` on the compiled mode
    reports nothing iff there is no pattern-level candidate, and otherwise a candidate (a non-empty
    prefix matched by the reported pattern, ending at the reported offset, whose lookahead condition
    holds on the rest and never counts into the token) that maximises end + lookahead length and,
    among those, is listed first -/
theorem end_to_end_lookahead (ps : List CPat) (hn : (ps.map (·.tid)).Nodup) (cm : Nat → Nat → Bool)
    (w : List Nat) :
    match findFrom (compileFull ps) cm 0 w with
    | none => ∀ k, ¬ PCand cm ps 0 w k
    | some (t, e) => ∃ k, PCand cm ps 0 w k ∧ k.tid = t ∧ k.endPos = e ∧
        ∀ k', PCand cm ps 0 w k' → k'.extent < k.extent ∨
          (k'.extent = k.extent ∧ (ps.map (·.tid)).idxOf k.tid ≤ (ps.map (·.tid)).idxOf k'.tid) :=
  findFrom_compileFull ps hn cm w

end Scnr.C04

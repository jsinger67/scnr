import ScnrVerif.Proofs.Equiv
import ScnrVerif.Proofs.Agree
import ScnrVerif.Proofs.FullRegistry
/-!
# C02 — the compiled automaton accepts exactly the pattern languages, for every string

`equiv_sound`: if the verified check `closedCheckH` accepts a candidate set for the dumped automaton
`A` (with the scanner's class tables `T`) against the pattern list `ps` (reference regular
expressions over reference tables `R`), then for **every non-empty word over all code points** and
every terminal `t`, the automaton accepts the word for `t` iff some pattern with terminal `t`
matches it. The check is run by `bin/check C02` on the automata the real compiler just produced
(every mode and every lookahead of this run's programs and of the repository corpora).
-/
namespace Scnr.C02

theorem reps_cover (T R : List (List (Nat × Nat))) (A : Dfa) :
    RepsCover (dfaSys A (cmT T)) (reSys (cmT R)) (mkReps (T ++ R)) :=
  repsCover_of_tables (fun _ h => List.mem_append_left _ h) (fun _ h => List.mem_append_right _ h)
    (fun _ _ h => dfaSys_step_congr A _ h) (fun _ _ h => reSys_step_congr _ h)

theorem closed_equiv {T R : List (List (Nat × Nat))} {A : Dfa} {ps : List (Nat × Re)}
    {V : List (List Nat × List (Nat × Re))}
    (hc : Closed (dfaSys A (cmT T)) (reSys (cmT R)) (mkReps (T ++ R)) [0] (normP ps) V)
    (w : List Nat) (hw : w ≠ []) (t : Nat) :
    acceptsTid A (cmT T) w t ↔ ∃ r, (t, r) ∈ ps ∧ Matches (cmT R) r w := by
  rw [← dfaSys_acc_run, closed_sound hc (reps_cover T R A) w hw, reSys_acc_run]
  simp only [mem_normP]

theorem equiv_sound (T R : List (List (Nat × Nat))) (A : Dfa) (ps : List (Nat × Re))
    (V : Array (List Nat × List (Nat × Re))) (h0 : Array Nat) (hs : Array (Array Nat))
    (h : closedCheckH (dfaSys A (cmT T)) (reSys (cmT R)) (mkReps (T ++ R)) [0] (normP ps) false V h0 hs = true)
    (w : List Nat) (hw : w ≠ []) (t : Nat) :
    acceptsTid A (cmT T) w t ↔ ∃ r, (t, r) ∈ ps ∧ Matches (cmT R) r w :=
  closed_equiv (closedCheckH_closed h).1 w hw t

theorem equiv_sound_list (T R : List (List (Nat × Nat))) (A : Dfa) (ps : List (Nat × Re))
    (V : List (List Nat × List (Nat × Re)))
    (h : closedCheck (dfaSys A (cmT T)) (reSys (cmT R)) (mkReps (T ++ R)) [0] (normP ps) false V = true)
    (w : List Nat) (hw : w ≠ []) (t : Nat) :
    acceptsTid A (cmT T) w t ↔ ∃ r, (t, r) ∈ ps ∧ Matches (cmT R) r w :=
  closed_equiv (closedCheck_closed h).1 w hw t

theorem empty_not_accepted (A : Dfa) (cm : Nat → Nat → Bool) (h : startNotAccepting A = true) (t : Nat) :
    ¬ acceptsTid A cm [] t := by
  rintro ⟨s, hs, he, _⟩
  simp only [reach, List.mem_singleton] at hs
  subst hs
  simp [startNotAccepting, he] at h

/-- Every class id an automaton refers to is a registered one. -/
theorem class_ids_registered (A : Dfa) (n : Nat) (h : classIdsInRange A n = true) (s : Nat) (p : Nat × Nat)
    (hp : p ∈ A.outs s) : p.1 < n := by
  obtain ⟨ts, hts, hpt⟩ := outs_mem_trans A s p hp
  unfold classIdsInRange at h
  simp only [List.all_eq_true, decide_eq_true_eq] at h
  exact h ts hts p hpt

/-- Derivative matching is the semantics (used by the executable pattern-level oracle). -/
theorem matches_by_derivatives (cm : Nat → Nat → Bool) (c : Nat) (r : Re) (w : List Nat) :
    Matches cm r (c :: w) ↔ ∃ r' ∈ pderiv cm c r, Matches cm r' w := matches_cons_iff

theorem nullable_is_empty_match (cm : Nat → Nat → Bool) (r : Re) :
    r.nullable = true ↔ Matches cm r [] := nullable_iff

/-! Non-vacuity: the automaton of `["ab", "a+"]` (terminals 0, 1) against its patterns, kernel
    checked with the list version of the check. Tables: class 0 = {a}, class 1 = {b}. -/
def exT : List (List (Nat × Nat)) := [[(97, 97)], [(98, 98)]]
def exA : Dfa :=
  { trans := [[(0, 1), (0, 2)], [(1, 3)], [(0, 2)], []],
    ends := [(false, 0), (false, 0), (true, 1), (true, 0)], prio := [0, 1] }
def exPs : List (Nat × Re) :=
  [(0, .cat (.cls 0) (.cls 1)), (1, .cat (.cls 0) (.star (.cls 0)))]
def exV : List (List Nat × List (Nat × Re)) :=
  (explore (dfaSys exA (cmT exT)) (reSys (cmT exT)) (mkReps (exT ++ exT)) 50
    [([0], normP exPs)] []).getD []
example : closedCheck (dfaSys exA (cmT exT)) (reSys (cmT exT)) (mkReps (exT ++ exT)) [0] (normP exPs)
    false exV = true := by decide +kernel
example : exV.length = 4 := by decide +kernel

/-! ## Track A: the compiler model is correct for **every** pattern list

`Model/Compile.lean` mirrors the Rust compiler (Thompson construction with its state numbering,
multi-pattern NFA, closure construction, minimizer); on every run the driver checks that it
reproduces the real automata exactly. The theorems below need no per-program check. -/

theorem thompson_language (a : CAst) (cm : Nat → Nat → Bool) (w : List Nat) :
    (thompson a).Accepts cm w ↔ Matches cm a.toRe w := thompson_correct a cm w

/-- the closure construction (one state per ε-closure of an NFA state) preserves the languages -/
theorem closure_construction_correct (m : MNfa) (hm : MWF m) (prio : List Nat) (cm : Nat → Nat → Bool)
    (w : List Nat) (tid : Nat) :
    acceptsTid (buildDfa m prio) cm w tid ↔ w ≠ [] ∧ ∃ p ∈ m, p.1 = tid ∧ p.2.Accepts cm w :=
  buildDfa_correct hm prio cm w tid

/-- **the compiled automaton of a mode** (Thompson, closure construction, minimizer) accepts a word
    for a terminal iff the word is not empty and a pattern with that terminal matches it -/
theorem compiler_model_correct (ps : List (Nat × CAst)) (cm : Nat → Nat → Bool) (w : List Nat) (tid : Nat) :
    acceptsTid (compileMode ps) cm w tid ↔ w ≠ [] ∧ ∃ q ∈ ps, q.1 = tid ∧ Matches cm q.2.toRe w :=
  compileMode_correct ps cm w tid

/-- the minimized automaton of a lookahead expression accepts exactly the non-empty words of the
    expression, all for terminal 0 -/
theorem lookahead_model_correct (a : CAst) (cm : Nat → Nat → Bool) (w : List Nat) (t : Nat) :
    acceptsTid (minimize (compileLaPre a)) cm w t ↔ w ≠ [] ∧ t = 0 ∧ Matches cm a.toRe w :=
  compileLa_correct a cm w t

/-- **track A as a decision procedure** (executed by the driver on every compiled mode): equality of
    the real automaton with the model's and leaf-wise agreement of the patterns decide C02 for that
    mode, for every word, with no exploration bound -/
theorem decided_by_compiler_theorem (T R : List (List (Nat × Nat))) (A : Dfa) (ps : List (Nat × CAst))
    (rs : List (Nat × Ast)) (hA : A = compileMode ps) (hag : agreePats T R ps rs = true) (w : List Nat) (t : Nat) :
    acceptsTid A (cmT T) w t ↔
      w ≠ [] ∧ ∃ r, (t, r) ∈ rs.map (fun p => (p.1, p.2.desugar)) ∧ Matches (cmT R) r w :=
  trackA_decides T R A ps rs hA hag w t

/-- the same for a lookahead automaton; the driver compares transitions and end states only, hence
    `ht` and `he` in place of an equation between automata -/
theorem lookahead_decided_by_compiler_theorem (T R : List (List (Nat × Nat))) (A : Dfa) (a : CAst) (r : Ast)
    (ht : A.trans = (minimize (compileLaPre a)).trans) (he : A.ends = (minimize (compileLaPre a)).ends)
    (hag : agree T R a r = true) (w : List Nat) (t : Nat) :
    acceptsTid A (cmT T) w t ↔ w ≠ [] ∧ t = 0 ∧ Matches (cmT R) r.desugar w := by
  rw [acceptsTid_congr ht he, compileLa_correct, agree_sound T R a r hag w]

theorem model_rejects_empty (ps : List (Nat × CAst)) (cm : Nat → Nat → Bool) (tid : Nat) :
    ¬ acceptsTid (compileMode ps) cm [] tid :=
  fun h => ((compileMode_correct ps cm [] tid).mp h).1 rfl

/-- instance: patterns `ab` (terminal 0) and `a+` (terminal 1): "aa" is accepted for terminal 1 -/
example : acceptsTid (compileMode [(0, .concat [.leaf 0, .leaf 1]), (1, .plus (.leaf 0))])
    (fun cls c => (cls == 0 && c == 97) || (cls == 1 && c == 98)) [97, 97] 1 := by
  rw [compileMode_correct]
  refine ⟨by simp, (1, .plus (.leaf 0)), by simp, rfl, ?_⟩
  show Matches _ (.cat (.cls 0) (.star (.cls 0))) [97, 97]
  exact (Matches.cat (u := [97]) (v := [97]) (.cls (by decide))
    ((List.append_nil [97]) ▸ Matches.starCons (u := [97]) (v := []) (.cls (by decide)) .starNil))

/-! ## The class registry (E8): "every character class an automaton refers to is a registered one"

`Model/Registry.lean` mirrors `CharacterClassRegistry::add_character_class` and the order in which the
compiler registers the leaves of the pattern ASTs. For **every** scanner configuration: -/

/-- ids handed out are registered, the registry stays duplicate-free and only grows, and under the
    class function of any later registry the AST with ids denotes the language of the AST with keys -/
theorem class_ids_assigned_are_registered (a : CAst) (R : List Nat) (hR : R.Nodup) :
    R <+: (assign a R).2 ∧ (assign a R).2.Nodup ∧
    (assign a R).1.idsBelow (assign a R).2.length = true ∧
    ∀ R', (assign a R).2 <+: R' → ∀ sem : Nat → Nat → Bool,
      SameLang (regCm R' sem) sem (assign a R).1.toRe a.toRe :=
  assign_spec a R hR

/-- every compiled mode of a scanner accepts, under the class function of the scanner's registry,
    exactly the languages of its patterns read with the sets their class keys denote -/
theorem class_registry_faithful (ms : List (List CPat)) (sem : Nat → Nat → Bool) (i : Nat) (ps : List CPat)
    (h : ms[i]? = some ps) :
    ∃ ps', (assignModes ms []).1[i]? = some ps' ∧ (ps'.map (·.tid)) = (ps.map (·.tid)) ∧
      (∀ w t, acceptsTid (compileFull ps').dfa (regCm (assignModes ms []).2 sem) w t ↔
        w ≠ [] ∧ ∃ q ∈ ps, q.tid = t ∧ Matches sem q.ast.toRe w) ∧
      (∀ i0 w k, PCand (regCm (assignModes ms []).2 sem) ps' i0 w k ↔ PCand sem ps i0 w k) :=
  registry_mode_correct ms sem i ps h

/-- registry + compiler + finder: from pattern ASTs with class keys to the trailing-context rule -/
theorem whole_pipeline_from_class_keys (ms : List CMode) (hn : ∀ md ∈ ms, (md.pats.map (·.tid)).Nodup)
    (sem : Nat → Nat → Bool) (m : Nat) (w : List Nat) :
    match ms[m]? with
    | none => modelFinder (compileScanner (assignScanner ms).1) (regCm (assignScanner ms).2 sem) m w = none
    | some md => PFindOK sem md.pats w
        (modelFinder (compileScanner (assignScanner ms).1) (regCm (assignScanner ms).2 sem) m w) :=
  whole_scanner_from_keys ms hn sem m w

/-- two leaves with one key share an id, leaves with different keys get different ids -/
example : (assignList [.leaf 7, .leaf 3, .leaf 7, .star (.leaf 9)] []) =
    ([.leaf 0, .leaf 1, .leaf 0, .star (.leaf 2)], [7, 3, 9]) := by rfl

end Scnr.C02

-- the C17 check audits `C03.pair_sound`, `C02.equiv_sound`, `C01.scan_step`, `C02.compiler_model_correct` through this module
import ScnrVerif.Props.C03
import ScnrVerif.Props.C01
/-!
# C17 — large automata compile correctly or not at all

* `matches_rep_lit`: closed form of the language of `x{n}y` (single-class `x`, `y`): exactly the
  words `xⁿy` — this gives the expected token streams of the property's inputs (exact length, one
  less, 2^16 less, one more) without exploring 66 001 states.
* `group_ids_do_not_wrap`: if the minimizer's group id type is at least as wide as the state id
  type, every group index (there are never more groups than states) survives the cast.
* The minimized automaton of the large build is compared with the automaton before minimization by
  C03's verified check (`C03.pair_sound`), and mid-size instances of the same pattern family go
  through C01/C02's complete machinery (`C02.equiv_sound`, `C01.scan_step`).
-/
namespace Scnr.C17

theorem matches_pow_cls (cm : Nat → Nat → Bool) (id n : Nat) (w : List Nat) :
    Matches cm (Re.pow (.cls id) n) w ↔ w.length = n ∧ ∀ c ∈ w, cm id c = true := by
  induction n generalizing w with
  | zero =>
    rw [matches_pow_zero]
    exact ⟨fun h => by rw [h]; exact ⟨rfl, fun _ hc => nomatch hc⟩, fun h => List.length_eq_zero_iff.mp h.1⟩
  | succ n ih =>
    simp only [matches_pow_succ, matches_cls_iff, ih]
    constructor
    · rintro ⟨_, v, rfl, ⟨c, rfl, hc⟩, h1, h2⟩
      exact ⟨by rw [List.singleton_append, List.length_cons, h1],
        fun x hx => (List.mem_cons.mp hx).elim (fun e => e ▸ hc) (h2 x)⟩
    · rintro ⟨h1, h2⟩
      cases w with
      | nil => cases h1
      | cons c w =>
        exact ⟨[c], w, rfl, ⟨c, rfl, h2 c List.mem_cons_self⟩, Nat.succ.inj h1,
          fun x hx => h2 x (List.mem_cons_of_mem _ hx)⟩

/-- The language of `x{n}y` as `regex-syntax` parses it and `Ast.desugar` reads it. -/
theorem matches_rep_lit (cm : Nat → Nat → Bool) (a b n : Nat) (w : List Nat) :
    Matches cm (Ast.concat [.rep n (some n) (.leaf a), .leaf b]).desugar w ↔
      ∃ u c, w = u ++ [c] ∧ u.length = n ∧ (∀ x ∈ u, cm a x = true) ∧ cm b c = true := by
  simp only [Ast.desugar, Ast.desugarList, Re.catList, Nat.sub_self, Re.pow]
  rw [matches_cat_iff]
  simp only [matches_cat_eps, matches_pow_cls, matches_cls_iff]
  constructor
  · rintro ⟨u, _, rfl, ⟨h1, h2⟩, c, rfl, h3⟩
    exact ⟨u, c, rfl, h1, h2, h3⟩
  · rintro ⟨u, c, rfl, h1, h2, h3⟩
    exact ⟨u, [c], rfl, ⟨h1, h2⟩, c, rfl, h3⟩

theorem group_ids_do_not_wrap (stateBits groupBits numStates g : Nat) (hw : stateBits ≤ groupBits)
    (hs : numStates ≤ 2 ^ stateBits) (hg : g < numStates) : g % 2 ^ groupBits = g :=
  Nat.mod_eq_of_lt (Nat.lt_of_lt_of_le hg (Nat.le_trans hs (Nat.pow_le_pow_right (by decide) hw)))

/-- with a 16 bit group id the 65 537th group collides with the first one (defect D7, DESIGN.md §7) -/
example : (65536 : Nat) % 2 ^ 16 = 0 % 2 ^ 16 := by decide

/-! Non-vacuity: `a{3}b` -/
example : Matches (cmT [[(97, 97)], [(98, 98)]]) (Ast.concat [.rep 3 (some 3) (.leaf 0), .leaf 1]).desugar
    [97, 97, 97, 98] :=
  (matches_rep_lit _ 0 1 3 _).mpr ⟨[97, 97, 97], 98, rfl, rfl, by decide, by decide⟩
example : matchesBool (cmT [[(97, 97)], [(98, 98)]]) (Ast.concat [.rep 3 (some 3) (.leaf 0), .leaf 1]).desugar
    [97, 97, 98] = false := by decide

end Scnr.C17

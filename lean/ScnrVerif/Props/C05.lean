import ScnrVerif.Proofs.SpecFind
/-!
# C05 — choice among lookahead candidates follows the trailing-context rule

All statements are about the model `findFrom` of `CompiledDfa::find_from` (tied to the Rust code by
the correspondence run of `bin/check C05`) and hold for **every** automaton, lookahead table, class
match function and input.
-/
namespace Scnr.C05

/-- What a candidate is (readable form of `specCands`): a non-empty prefix `u` of the remaining
    text after which the automaton is in an accepting state `s` whose lookahead condition holds on
    the rest `v`; its extent is its own end plus the lookahead length. -/
theorem candidate_iff (M : ModeDfa) (cm : Nat → Nat → Bool) (i : Nat) (w : List Nat) (k : Cand) :
    k ∈ specCands M cm i w ↔
      ∃ u v, u ≠ [] ∧ w = u ++ v ∧ ∃ s ∈ reach M.dfa cm [0] u, M.dfa.isEnd s = true ∧
        ∃ l, M.laSpec cm (M.dfa.tidOf s) v = some l ∧
          k = ⟨i + bytesLen u, i + bytesLen u + l, M.dfa.tidOf s⟩ :=
  mem_specCands M cm i w k

/-- The reported token maximises own length plus lookahead length; equal extents are resolved in
    favour of the pattern listed first; span and token type belong to the same candidate. -/
theorem reported_is_best_candidate (M : ModeDfa) (cm : Nat → Nat → Bool) (i : Nat) (w : List Nat)
    (t e : Nat) (h : findFrom M cm i w = some (t, e)) :
    ∃ k ∈ specCands M cm i w, k.tid = t ∧ k.endPos = e ∧
      ∀ k' ∈ specCands M cm i w,
        k'.extent < k.extent ∨ (k'.extent = k.extent ∧ M.dfa.prioOf k.tid ≤ M.dfa.prioOf k'.tid) :=
  findFrom_some M cm i w t e h

/-- `None` is reported only when no candidate exists (completeness; the converse direction of
    C04). -/
theorem none_iff_no_candidate (M : ModeDfa) (cm : Nat → Nat → Bool) (i : Nat) (w : List Nat) :
    findFrom M cm i w = none ↔ specCands M cm i w = [] :=
  findFrom_none_iff M cm i w

/-- The loop-level statement for arbitrary start states and an arbitrary incoming best candidate
    (`loop_spec`); the lookahead evaluation of C04 is the same loop on the lookahead automaton,
    which has no lookaheads of its own. -/
theorem loop_selects (A : Dfa) (cm : Nat → Nat → Bool) (la : Nat → List Nat → Option Nat)
    (i : Nat) (w S : List Nat) (b : Best) :
    (∀ k, (Dom A b k ∨ CandAt A cm la i w S k) → Dom A (loop A cm la i w S b) k) ∧
    (loop A cm la i w S b = b ∨ ∃ k, loop A cm la i w S b = some k ∧ CandAt A cm la i w S k) :=
  loop_spec A cm la i w S b

/-! ## Non-vacuity: a concrete automaton with two lookahead patterns and competing candidates.

`ab(?=c)` (terminal 7, listed first) and `a(?=bc)` (terminal 3) on `abc`: both candidates have
extent 3; the first listed pattern wins with its own span `0..2` (this is the input on which the
pinned code reported terminal 7 with span `0..1`). Classes: 0 = {a}, 1 = {b}, 2 = {c}. -/

def exCm : Nat → Nat → Bool := cmT [[(97, 97)], [(98, 98)], [(99, 99)]]

def exMode : ModeDfa :=
  { dfa := { trans := [[(0, 1), (0, 3)], [(1, 2)], [], []],
             ends := [(false, 0), (false, 0), (true, 7), (true, 3)],
             prio := [7, 3] },
    las := [(7, ⟨true, { trans := [[(2, 1)], []], ends := [(false, 0), (true, 0)], prio := [0] }⟩),
            (3, ⟨true, { trans := [[(1, 1)], [(2, 2)], []],
                         ends := [(false, 0), (false, 0), (true, 0)], prio := [0] }⟩)] }

example : findFrom exMode exCm 0 [97, 98, 99] = some (7, 2) := by decide +kernel
example : (specCands exMode exCm 0 [97, 98, 99]).length = 2 := by decide +kernel
example : specFindOK exMode exCm 0 [97, 98, 99] (some (7, 2)) = true := by decide +kernel
-- the pinned tree's answer is rejected by the specification
example : specFindOK exMode exCm 0 [97, 98, 99] (some (7, 1)) = false := by decide +kernel

end Scnr.C05

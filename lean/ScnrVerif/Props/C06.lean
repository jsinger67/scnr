import ScnrVerif.Proofs.FullScanner
/-!
# C06 — scanner modes switch exactly on configured token types

Iterator model over any finder with `FinderOK`. The finder is always asked with the *current*
mode; the mode changes exactly when the delivered token's type has a transition in the current
mode; `peek_n` has no iterator result at all in the model (it is a pure function of the state),
`set_mode` only writes the mode field, a new iterator starts in mode 0.
-/
namespace Scnr.C06

/-- The early-exit search of `has_transition` on a list strictly sorted by token type is the plain
    lookup: a transition is found iff it is configured. -/
theorem has_transition_is_lookup (l : List (Nat × Nat)) (hs : SortedKeys l) (tok : Nat) :
    hasTransition l tok = l.lookup tok := hasTransition_eq_lookup hs tok

/-- After a token the iterator is in the transition's target mode if the token type has a
    transition in the current mode, otherwise the mode is unchanged; the token was found by the
    finder of the mode that was current before; skipped characters do not switch. -/
theorem next_mode_some (cfg : List ModeCfg) (find : Finder) (hf : FinderOK find) (it : Iter)
    (hi : it.Inv) (it' : Iter) (t : Tok) (h : it.next cfg find = (it', some t)) :
    it'.mode = (hasTransition (modeTrans cfg it.mode) t.tid).getD it.mode ∧
    ∃ sk u v, it.rest = sk ++ (u ++ v) ∧ find it.mode (u ++ v) = some (t.tid, bytesLen u) ∧
      t.start = it.cursor + bytesLen sk ∧ t.stop = t.start + bytesLen u := by
  have ho := next_outcome cfg find hf it hi.lastPos
  rw [h] at ho
  cases ho with
  | token _ sk u v tid hr _ _ hfind _ _ hmode _ _ _ =>
    exact ⟨hmode, sk, u, v, hr, hfind, rfl, rfl⟩

theorem next_mode_none (cfg : List ModeCfg) (find : Finder) (hf : FinderOK find) (it : Iter)
    (hi : it.Inv) (it' : Iter) (h : it.next cfg find = (it', none)) : it'.mode = it.mode := by
  have ho := next_outcome cfg find hf it hi.lastPos
  rw [h] at ho
  cases ho with
  | exhausted _ _ _ _ hmode _ _ _ => exact hmode

/-- `set_mode` takes effect for the next token and touches nothing else. -/
theorem setMode_spec (it : Iter) (m : Nat) :
    (it.setMode m).mode = m ∧ (it.setMode m).rest = it.rest ∧ (it.setMode m).cursor = it.cursor ∧
    (it.setMode m).lineOffsets = it.lineOffsets ∧ ((it.setMode m).Inv ↔ it.Inv) :=
  ⟨rfl, rfl, rfl, rfl, fun h => ⟨h.pre, h.lastPos⟩, fun h => ⟨h.pre, h.lastPos⟩⟩

theorem new_starts_in_mode_zero (input : List Nat) :
    (Iter.new input).mode = 0 ∧ (Iter.new input).rest = input ∧ (Iter.new input).cursor = 0 :=
  ⟨rfl, rfl, rfl⟩

/-- `set_offset` keeps the mode (`advance_to`: third conjunct of `advanceTo_spec`). -/
theorem setOffset_keeps_mode (it : Iter) (o : Nat) : (it.setOffset o).mode = it.mode := rfl

theorem modeName_spec (cfg : List ModeCfg) (i : Nat) : modeName cfg i = cfg[i]?.map (·.name) := rfl

/-- in every mode the finder of the compiled scanner follows the pattern-level trailing-context rule
    of *that mode's* patterns (token types distinct within a mode) -/
theorem whole_scanner_finder (ms : List CMode) (hn : ∀ md ∈ ms, (md.pats.map (·.tid)).Nodup)
    (cm : Nat → Nat → Bool) (m : Nat) (w : List Nat) :
    match ms[m]? with
    | none => modelFinder (compileScanner ms) cm m w = none
    | some md => PFindOK cm md.pats w (modelFinder (compileScanner ms) cm m w) :=
  scanner_finder_spec ms hn cm m w

/-- the token stream of a fresh iterator is the reference scan driven by that finder: the patterns
    used for a token are those of the current mode, the mode changes exactly on configured token
    types, unmatched characters are skipped one at a time -/
theorem whole_scanner_tokens (ms : List CMode) (cm : Nat → Nat → Bool) (input : List Nat) (n : Nat)
    (hlen : input.length < n) :
    Iter.run (scannerCfg ms) (modelFinder (compileScanner ms) cm) n (Iter.new input) =
      scanFrom (scannerCfg ms) (modelFinder (compileScanner ms) cm) 0 input 0 :=
  run_new _ _ (modelFinder_ok _ cm) input n hlen

/-! Non-vacuity: two modes; token 1 switches 0 → 1, token 2 switches back. Finder: `a` ↦ 1 in
    mode 0, `b` ↦ 2 in mode 1 (single characters). -/
def exCfg : List ModeCfg := [⟨[65], [(1, 1)]⟩, ⟨[66], [(2, 0)]⟩]
def exFind : Finder := fun m w =>
  match m, w with
  | 0, 97 :: _ => some (1, 1)
  | 1, 98 :: _ => some (2, 1)
  | _, _ => none
example : SortedKeys [(1, 1), (4, 0), (9, 2)] := by simp [SortedKeys]
example : Iter.run exCfg exFind 9 (Iter.new [97, 97, 98, 98, 97]) = [⟨1, 0, 1⟩, ⟨2, 2, 3⟩, ⟨1, 4, 5⟩] := by
  decide

end Scnr.C06

import ScnrVerif.Props.C16
import ScnrVerif.Proofs.JsonText
/-!
# C16 — the JSON text layer

`Model/JsonText.lean`: `printJson` writes a value tree exactly as `serde_json::to_string` does
(compact, serde_json's escapes), `parseJson` is a total parser for RFC 8259 (whitespace, all escapes,
surrogate pairs, arbitrary-size non-negative integers; other numbers are `float`). The parser runs on
the text the real crate writes (`jtext`, compact and pretty) and on the texts the real crate reads
(`jdetext`) on every check. The round trip shows that it reads back every tree the printer writes.
`modes_text_roundtrip` composes it with the value-tree round trip of `Props/C16.lean`.
-/
namespace Scnr

theorem modes_text_roundtrip (ms : List ModeC) (hr : ∀ m ∈ ms, m.inRange = true)
    (ht : ∀ m ∈ ms, m.textOK = true) :
    (parseJson (printJson (toJsonModes ms))).bind fromJsonModes = some ms := by
  rw [parseJson_printJson _ (toJsonModes_textOK ms ht)]
  exact C16.modes_roundtrip ms hr

end Scnr

namespace Scnr.C16

/-- printing and parsing a value tree (no `float`, well-formed keys, scalar values in strings) gives
    the tree back -/
theorem text_roundtrip (v : Json) (h : v.textOK = true) : parseJson (printJson v) = some v :=
  parseJson_printJson v h

theorem text_injective (a b : Json) (ha : a.textOK = true) (hb : b.textOK = true)
    (h : printJson a = printJson b) : a = b :=
  printJson_injective a b ha hb h

/-- configuration → value tree → text → value tree → configuration is the identity -/
theorem modes_text_roundtrip (ms : List ModeC) (hr : ∀ m ∈ ms, m.inRange = true)
    (ht : ∀ m ∈ ms, m.textOK = true) :
    (parseJson (printJson (toJsonModes ms))).bind fromJsonModes = some ms :=
  Scnr.modes_text_roundtrip ms hr ht

end Scnr.C16

import ScnrVerif.Model.Json
/-!
# C16 — scanner configurations and matches survive serialization unchanged (partial)

Round trips on JSON *value trees* for every list of modes (names, patterns with token types and
optional positive or negative lookaheads, transitions, any strings), `Match`, `MatchExt`, `Span`,
`Position`; `lookahead` is omitted exactly when absent; the README layout is accepted. PARTIAL: the
derive expansion is serde's; the correspondence run compares `to_value`/`from_value` of the real types
with these functions and checks `from_str(to_string(x)) == x` on the implementation. The JSON text
layer (escaping of quotes, backslashes, control and non-ASCII characters) is `Props/C16Text.lean`.
-/
namespace Scnr.C16

theorem asUsize_num (n : Nat) (h : n < 18446744073709551616) : asUsize (.num n) = some n := by
  simp only [asUsize, h, if_true]

theorem key_beq (a b : Key) : (a == b) = decide (a = b) := rfl

theorem field_cons (k k' : Key) (v : Json) (kvs : List (Key × Json)) :
    field ((k', v) :: kvs) k = if k = k' then some v else field kvs k := by
  simp only [field, List.lookup, key_beq]
  by_cases h : k = k' <;> simp [h]

theorem field_nil (k : Key) : field [] k = none := rfl

theorem lookahead_roundtrip (l : LookaheadC) : fromJsonLookahead (toJsonLookahead l) = some l := by
  simp [fromJsonLookahead, toJsonLookahead, field_cons, asBool, asStr]

theorem pattern_roundtrip (p : PatternC) (h : p.tokenType < 18446744073709551616) :
    fromJsonPattern (toJsonPattern p) = some p := by
  obtain ⟨pat, t, la⟩ := p
  cases la <;> simp [toJsonPattern, fromJsonPattern, field_cons, field_nil, asStr, asBool, asUsize_num t h,
    toJsonLookahead, fromJsonLookahead]

theorem transition_roundtrip (t : Nat × Nat) (h1 : t.1 < 18446744073709551616) (h2 : t.2 < 18446744073709551616) :
    fromJsonTransition (toJsonTransition t) = some t := by
  simp [fromJsonTransition, toJsonTransition, asUsize_num _ h1, asUsize_num _ h2]

theorem mapM_roundtrip {α : Type} (f : α → Json) (g : Json → Option α) (l : List α)
    (h : ∀ x ∈ l, g (f x) = some x) : (l.map f).mapM g = some l := by
  induction l with
  | nil => rfl
  | cons x xs ih =>
    simp only [List.map, List.mapM_cons]
    rw [h x (by simp), ih (fun y hy => h y (List.mem_cons_of_mem _ hy))]
    rfl

theorem mode_roundtrip (m : ModeC) (h : m.inRange = true) : fromJsonMode (toJsonMode m) = some m := by
  obtain ⟨n, ps, ts⟩ := m
  simp only [ModeC.inRange, Bool.and_eq_true, List.all_eq_true, decide_eq_true_eq] at h
  simp [toJsonMode, fromJsonMode, field_cons, asStr,
    mapM_roundtrip toJsonPattern fromJsonPattern ps (fun p hp => pattern_roundtrip p (h.1 p hp)),
    mapM_roundtrip toJsonTransition fromJsonTransition ts (fun t ht => transition_roundtrip t (h.2 t ht).1 (h.2 t ht).2)]

/-- **Round trip** of every configuration whose numbers fit `usize`. -/
theorem modes_roundtrip (ms : List ModeC) (h : ∀ m ∈ ms, m.inRange = true) :
    fromJsonModes (toJsonModes ms) = some ms := by
  simp only [toJsonModes, fromJsonModes]
  exact mapM_roundtrip toJsonMode fromJsonMode ms (fun m hm => mode_roundtrip m (h m hm))

/-- `lookahead` is written exactly when present (that an absent or `null` key reads as `None` is the
    examples at the end of the file). -/
theorem lookahead_omitted (p : PatternC) :
    (field (match toJsonPattern p with | .obj kvs => kvs | _ => []) .lookahead).isSome = p.lookahead.isSome := by
  obtain ⟨pat, t, la⟩ := p
  cases la
  · simp [toJsonPattern, field_cons, field_nil]
  · simp [toJsonPattern, field_cons]

theorem span_roundtrip (s : SpanC) (h1 : s.start < 18446744073709551616) (h2 : s.stop < 18446744073709551616) :
    fromJsonSpan (toJsonSpan s) = some s := by
  simp [toJsonSpan, fromJsonSpan, field_cons, asUsize_num, h1, h2]

theorem position_roundtrip (p : PositionC) (h1 : p.line < 18446744073709551616) (h2 : p.column < 18446744073709551616) :
    fromJsonPosition (toJsonPosition p) = some p := by
  simp [toJsonPosition, fromJsonPosition, field_cons, asUsize_num, h1, h2]

theorem match_roundtrip (m : MatchC) (h0 : m.tokenType < 18446744073709551616)
    (h1 : m.span.start < 18446744073709551616) (h2 : m.span.stop < 18446744073709551616) :
    fromJsonMatch (toJsonMatch m) = some m := by
  simp [toJsonMatch, fromJsonMatch, field_cons, asUsize_num, h0, span_roundtrip m.span h1 h2]

theorem matchExt_roundtrip (m : MatchExtC) (h0 : m.tokenType < 18446744073709551616)
    (h1 : m.span.start < 18446744073709551616) (h2 : m.span.stop < 18446744073709551616)
    (h3 : m.startPosition.line < 18446744073709551616) (h4 : m.startPosition.column < 18446744073709551616)
    (h5 : m.endPosition.line < 18446744073709551616) (h6 : m.endPosition.column < 18446744073709551616) :
    fromJsonMatchExt (toJsonMatchExt m) = some m := by
  simp [toJsonMatchExt, fromJsonMatchExt, field_cons, asUsize_num, h0, span_roundtrip m.span h1 h2,
    position_roundtrip _ h3 h4, position_roundtrip _ h5 h6]

/-! The README layout (fields in README order, `lookahead` present on one pattern, an unknown extra
    field) is accepted. Strings abbreviated to single characters. -/
def readmeTree : Json :=
  .arr [.obj [(.name, .str [73]),
              (.patterns, .arr [.obj [(.pattern, .str [97]), (.tokenType, .num 1)],
                                .obj [(.pattern, .str [98]), (.tokenType, .num 2),
                                      (.lookahead, .obj [(.isPositive, .bool false), (.pattern, .str [99])])]]),
              (.transitions, .arr [.arr [.num 1, .num 1]]), (.other [120], .null)]]
example : fromJsonModes readmeTree =
    some [⟨[73], [⟨[97], 1, none⟩, ⟨[98], 2, some ⟨false, [99]⟩⟩], [(1, 1)]⟩] := by decide +kernel
example : fromJsonPattern (.obj [(.pattern, .str [97]), (.tokenType, .float)]) = none := by decide +kernel
example : fromJsonPattern (.obj [(.pattern, .str [97]), (.tokenType, .num 3), (.lookahead, .null)]) =
    some ⟨[97], 3, none⟩ := by decide +kernel

end Scnr.C16

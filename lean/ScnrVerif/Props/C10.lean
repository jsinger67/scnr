import ScnrVerif.Proofs.Iter
/-!
# C10 — scanning resumes correctly from any offset

The tokens delivered by repeated `next` are `scanFrom cfg find mode rest cursor`: a function of the
finder, the configuration, the current mode, the remaining text and the cursor position only. After
`set_offset(o)` the remaining text is the input from `min o len` on and the cursor is `min o len`,
so the result neither depends on `line_offsets/last_char/last_position` nor on what was scanned
before; spans are absolute. `advance_to(p)` with the end of a peeked match puts the cursor at `p`.
-/
namespace Scnr.C10

theorem tokens_are_reference_scan (cfg : List ModeCfg) (find : Finder) (hf : FinderOK find) (n : Nat)
    (it : Iter) (hi : it.Inv) (hn : it.rest.length < n) :
    Iter.run cfg find n it = scanFrom cfg find it.mode it.rest it.cursor :=
  run_eq_scanFrom cfg find hf n it hi hn

/-- After `set_offset(o)` / `with_offset(o)` (o on a character boundary, or beyond the end) the
    iterator yields exactly the reference scan of the input from `min o len` in the current mode. -/
theorem setOffset_tokens (cfg : List ModeCfg) (find : Finder) (hf : FinderOK find) (it : Iter) (o n : Nat)
    (hb : isBoundary it.input o = true ∨ bytesLen it.input ≤ o) (hn : it.input.length < n) :
    ∃ u v, it.input = u ++ v ∧ bytesLen u = min o (bytesLen it.input) ∧
      Iter.run cfg find n (it.setOffset o) = scanFrom cfg find it.mode v (min o (bytesLen it.input)) := by
  obtain ⟨u, v, huv, hu, hd⟩ := split_at_offset it.input o hb
  exact ⟨u, v, huv, hu, hd ▸ run_setOffset cfg find hf it o n hb hn⟩

/-- Two iterators over the same input in the same mode deliver the same tokens after being set to
    the same offset, whatever their histories (line bookkeeping, previous cursor) were. -/
theorem setOffset_history_independent (cfg : List ModeCfg) (find : Finder) (hf : FinderOK find)
    (it₁ it₂ : Iter) (o n : Nat) (hin : it₁.input = it₂.input) (hm : it₁.mode = it₂.mode)
    (hb : isBoundary it₁.input o = true ∨ bytesLen it₁.input ≤ o) (hn : it₁.input.length < n) :
    Iter.run cfg find n (it₁.setOffset o) = Iter.run cfg find n (it₂.setOffset o) := by
  rw [run_setOffset cfg find hf it₁ o n hb hn, run_setOffset cfg find hf it₂ o n (hin ▸ hb) (hin ▸ hn),
    hin, hm]

/-- `advance_to(p)`, `p` the absolute end of a non-empty prefix of the remaining text (the end of a
    match obtained from `peek_n`): the next tokens are the reference scan from `p`. -/
theorem advanceTo_tokens (cfg : List ModeCfg) (find : Finder) (hf : FinderOK find) (it : Iter)
    (hi : it.Inv) (u v : List Nat) (hu : u ≠ []) (hr : it.rest = u ++ v) (n : Nat) (hn : v.length < n) :
    Iter.run cfg find n (it.advanceTo (it.cursor + bytesLen u)) =
      scanFrom cfg find it.mode v (it.cursor + bytesLen u) := by
  obtain ⟨a1, a2, a3, a4⟩ := advanceTo_spec it hi u v hu hr
  rw [run_eq_scanFrom cfg find hf n _ a4 (by rw [a1]; exact hn), a1, a2, a3]

/-! Non-vacuity: finder `a` ↦ token 1 (one byte); input `xaéa`, reset to offset 4 (after `é`; 3 is inside `é`). -/
def exFind : Finder := fun _ w => match w with | 97 :: _ => some (1, 1) | _ => none
example : Iter.run [⟨[], []⟩] exFind 9 ((Iter.new [120, 97, 233, 97]).setOffset 4) = [⟨1, 4, 5⟩] := by decide
example : isBoundary [120, 97, 233, 97] 4 = true := by decide
example : isBoundary [120, 97, 233, 97] 3 = false := by decide

end Scnr.C10

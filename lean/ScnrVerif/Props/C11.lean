import ScnrVerif.Proofs.Iter
/-!
# C11 — `peek_n` previews the coming tokens without side effects

`peekN` in the model returns only a `Peek` value: the iterator state is not an output, so position,
mode and the outcome of later calls cannot change (in the Rust code `peek_n` takes `&mut self`; that
it leaves the iterator untouched is what the correspondence run checks at every point of every
history). The value is `peekSpec`: the first `n` tokens of the reference scan from the cursor in the
current mode, cut after the first token whose type has a transition, with the classification.
-/
namespace Scnr.C11

theorem peek_is_spec (cfg : List ModeCfg) (find : Finder) (hf : FinderOK find) (it : Iter) (n : Nat) :
    it.peekN cfg find n = peekSpec cfg find it.mode it.rest (it.rel + it.offset) n :=
  peekN_eq_peekSpec cfg find hf it n

/-- The peeked matches are a prefix of what `next` delivers (same tokens, same order). -/
theorem firstN_prefix (cfg : List ModeCfg) (m n : Nat) (ts : List Tok) :
    (firstN cfg m n ts).1 <+: ts := by
  fun_induction firstN cfg m n ts with
  | case1 => exact List.nil_prefix
  | case2 => exact List.nil_prefix
  | case3 n t ts m' h => exact (List.prefix_cons_inj t).mpr List.nil_prefix
  | case4 n t ts h ih => exact (List.prefix_cons_inj t).mpr ih

/-- The preview stops early only at the end of the token stream or after a switching token. -/
theorem firstN_length (cfg : List ModeCfg) (m n : Nat) (ts : List Tok) :
    (firstN cfg m n ts).1.length ≤ n ∧
    ((firstN cfg m n ts).2 = none → (firstN cfg m n ts).1.length = min n ts.length) := by
  fun_induction firstN cfg m n ts with
  | case1 => exact ⟨Nat.le_refl 0, fun _ => (Nat.zero_min _).symm⟩
  | case2 n => exact ⟨Nat.zero_le _, fun _ => (Nat.min_zero _).symm⟩
  | case3 n t ts m' h => exact ⟨Nat.succ_le_succ (Nat.zero_le n), nofun⟩
  | case4 n t ts h ih =>
    exact ⟨Nat.succ_le_succ ih.1, fun h' => by
      rw [List.length_cons, List.length_cons, ih.2 h']
      exact (Nat.add_min_add_right _ _ _).symm⟩

/-- A switch is reported only for the last peeked token, with its target mode. -/
theorem firstN_switch (cfg : List ModeCfg) (m n : Nat) (ts : List Tok) (m' : Nat)
    (h : (firstN cfg m n ts).2 = some m') :
    ∃ t, (firstN cfg m n ts).1.getLast? = some t ∧ hasTransition (modeTrans cfg m) t.tid = some m' := by
  fun_induction firstN cfg m n ts with
  | case1 => cases h
  | case2 => cases h
  | case3 n t ts m'' ht => exact ⟨t, rfl, ht.trans h⟩
  | case4 n t ts ht ih =>
    obtain ⟨t', h1, h2⟩ := ih h
    exact ⟨t', by rw [List.getLast?_cons, h1]; rfl, h2⟩

/-! Non-vacuity: finder `a` ↦ 1, `b` ↦ 2 (switching), input `xa ab a`. -/
def exCfg : List ModeCfg := [⟨[], [(2, 1)]⟩, ⟨[], []⟩]
def exFind : Finder := fun _ w =>
  match w with | 97 :: _ => some (1, 1) | 98 :: _ => some (2, 1) | _ => none
example : (Iter.new [120, 97, 32, 97, 98, 32, 97]).peekN exCfg exFind 2 = .matches [⟨1, 1, 2⟩, ⟨1, 3, 4⟩] := by
  decide
example : (Iter.new [120, 97, 32, 97, 98, 32, 97]).peekN exCfg exFind 5 =
    .modeSwitch [⟨1, 1, 2⟩, ⟨1, 3, 4⟩, ⟨2, 4, 5⟩] 1 := by decide
example : (Iter.new [120, 120]).peekN exCfg exFind 2 = .notFound := by decide
example : (Iter.new [120, 97]).peekN exCfg exFind 2 = .reachedEnd [⟨1, 1, 2⟩] := by decide

end Scnr.C11

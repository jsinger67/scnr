import ScnrVerif.Proofs.Class
/-!
# C08 — character classes are the set algebra of their parts, for every character

* `eval_is_algebra`: the mirror of `match_function.rs` (with its negation-flag plumbing) equals the
  textbook denotation for every class expression at any nesting depth, every environment of named
  primitives and every character — except for the deliberate special case of a verbatim `.`
  literal inside brackets (finding F3), which `noVerbDot` excludes.
* the laws of the denotation (union = or, `&&` = and, `--` = and-not, `~~` = xor, negation =
  complement at any level, literal = itself, range = inclusive interval, negated primitive =
  complement of the primitive).
* `check_is_exhaustive`: the per-expression check run by `bin/check C08` on the table of the real
  match function (enumerated over all 1,112,064 scalar values by the harness) decides agreement for
  **every** code point.
-/
namespace Scnr.C08

theorem eval_is_algebra (env : Nat → Nat → Bool) (neg : Bool) (s : CSet) (h : s.noVerbDot = true) (ch : Nat) :
    evalSetN env neg s ch = (denSet env s ch != neg) := evalSetN_eq_den env s h neg ch

theorem check_is_exhaustive (E : List (List (Nat × Nat))) (neg : Bool) (s : CSet) (real : List (Nat × Nat))
    (h : classCheck E neg s real = true) (c : Nat) :
    inRanges real c = (inRanges scalarTable c && (denSet (cmT E) s c != neg)) :=
  classCheck_sound E neg s real h c

theorem den_literal (env) (c vd ch) : denItem env (.lit c vd) ch = true ↔ ch = c := by
  rw [denItem, inRanges_point, beq_iff_eq]
theorem den_range (env) (lo hi ch) : denItem env (.range lo hi) ch = true ↔ lo ≤ ch ∧ ch ≤ hi := by
  rw [denItem, inRanges_singleton, Bool.and_eq_true, decide_eq_true_eq, decide_eq_true_eq]
theorem den_union (env) (a b ch) : denItem env (.union a b) ch = (denItem env a ch || denItem env b ch) := rfl
theorem den_empty (env) (ch) : denItem env .empty ch = false := rfl
theorem den_named (env) (id ch) : denItem env (.named id false) ch = env id ch := Bool.bne_false _
theorem den_named_neg (env) (id ch) : denItem env (.named id true) ch = !env id ch := Bool.bne_true _
theorem den_nested (env) (s ch) : denItem env (.bracketed false s) ch = denSet env s ch := Bool.bne_false _
theorem den_nested_neg (env) (s ch) : denItem env (.bracketed true s) ch = !denSet env s ch := Bool.bne_true _
theorem den_inter (env) (l r ch) : denSet env (.binop .inter l r) ch = (denSet env l ch && denSet env r ch) := rfl
theorem den_diff (env) (l r ch) : denSet env (.binop .diff l r) ch = (denSet env l ch && !denSet env r ch) := rfl
theorem den_symdiff (env) (l r ch) : denSet env (.binop .symdiff l r) ch = (denSet env l ch != denSet env r ch) := rfl

/-- the dot: everything except `\n` and `\r` -/
def dotFn (ch : Nat) : Bool := ch != 10 && ch != 13

/-- finite check used for the ASCII restrictions of `\d \s \w` -/
def asciiCheck (tbl expected : List (Nat × Nat)) : Bool :=
  (List.range 128).all fun c => inRanges tbl c == inRanges expected c

theorem asciiCheck_sound (tbl expected : List (Nat × Nat)) (h : asciiCheck tbl expected = true) (c : Nat)
    (hc : c < 128) : inRanges tbl c = inRanges expected c := by
  unfold asciiCheck at h
  simp only [List.all_eq_true, List.mem_range, beq_iff_eq] at h
  exact h c hc

/-! Non-vacuity: `[a-c&&[^b]]` = {a, c}, negated in the `classCheck` examples; double negation `[^[^a-c]]`. -/
def exS : CSet := .binop .inter (.item (.range 97 99)) (.item (.bracketed true (.item (.lit 98 false))))
example : (List.range 130).filter (fun ch => evalSetN (fun _ _ => false) false exS ch) = [97, 99] := by decide +kernel
example : exS.noVerbDot = true := by decide +kernel
example : classCheck [] true exS [(0, 96), (98, 98), (100, 0xD7FF), (0xE000, 0x10FFFF)] = true := by decide +kernel
example : classCheck [] true exS [(0, 96), (100, 0xD7FF), (0xE000, 0x10FFFF)] = false := by decide +kernel
example : evalSetN (fun _ _ => false) true (.item (.bracketed true (.item (.range 97 99)))) 98 = true := by decide +kernel

end Scnr.C08

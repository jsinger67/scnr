import ScnrVerif.Proofs.ModelFinder
/-!
# C07 — token streams are well-formed and scanning always makes progress

For the iterator model over **any** finder satisfying `FinderOK` (a reported match is a non-empty
prefix of the remaining text); `modelFinder_ok` shows that the model of `find_from` on any dumped
automata is such a finder, so nullable patterns never yield empty tokens. The model functions are
total: there is no panic outcome for any iterator state reachable through the API with offsets on
character boundaries. (Panics of the real crate are observed by `catch_unwind` in the
correspondence run; resource exhaustion is outside the model.)
-/
namespace Scnr.C07

theorem model_finder_is_ok (Ms : List ModeDfa) (cm : Nat → Nat → Bool) :
    FinderOK (modelFinder Ms cm) := modelFinder_ok Ms cm

/-- Every reported span is non-empty, lies within the input on character boundaries, starts at or
    after the cursor (hence after the end of the previous token) and the cursor moves to its end. -/
theorem next_token_wellformed (cfg : List ModeCfg) (find : Finder) (hf : FinderOK find) (it : Iter)
    (hi : it.Inv) (it' : Iter) (t : Tok) (h : it.next cfg find = (it', some t)) :
    t.start < t.stop ∧ t.stop ≤ bytesLen it.input ∧
    isBoundary it.input t.start = true ∧ isBoundary it.input t.stop = true ∧
    it.cursor ≤ t.start ∧ it'.cursor = t.stop ∧ it'.Inv ∧ it'.rest.length < it.rest.length := by
  have ho := next_outcome cfg find hf it hi.lastPos
  have hinv := next_inv cfg find hf it hi
  rw [h] at ho hinv
  cases ho with
  | token _ sk u v tid hr hu _ _ _ hrel _ hoff _ _ =>
    -- the token is `u` in `rest = sk ++ (u ++ v)`: it starts at the end of `sk`, stops at that of `sk ++ u`
    have hstop := hi.boundary (u := sk ++ u) (v := v) (by rw [hr, List.append_assoc])
    rw [bytesLen_append, ← Nat.add_assoc] at hstop
    refine ⟨Nat.lt_add_of_pos_right (bytesLen_pos hu), hstop.2, (hi.boundary hr).1, hstop.1,
      Nat.le_add_right _ _, ?_, hinv, next_token_rest_lt cfg find hf it hi.lastPos h⟩
    show _ + _ = it.offset + it.rel + bytesLen sk + bytesLen u
    rw [hoff, hrel, Nat.add_assoc, Nat.add_assoc, Nat.add_assoc]

/-- After `None` the iterator keeps returning `None`. -/
theorem next_fused (cfg : List ModeCfg) (find : Finder) (hf : FinderOK find) (it : Iter)
    (hi : it.Inv) (it' : Iter) (h : it.next cfg find = (it', none)) :
    (it'.next cfg find).2 = none := by
  have ho := next_outcome cfg find hf it hi.lastPos
  have hinv := next_inv cfg find hf it hi
  rw [h] at ho hinv
  cases ho with
  | exhausted _ _ hrest _ _ _ _ _ =>
    have ho' := next_outcome cfg find hf it' hinv.lastPos
    generalize it'.next cfg find = r at ho'
    cases ho' with
    | exhausted _ _ _ _ _ _ _ _ => rfl
    | token _ sk u v tid hr hu _ _ _ _ _ _ _ _ =>
      rw [hrest] at hr
      exact absurd (List.append_eq_nil_iff.mp (List.append_eq_nil_iff.mp hr.symm).2).1 hu

theorem tokens_le_chars (cfg : List ModeCfg) (find : Finder) (hf : FinderOK find) (n : Nat) (it : Iter)
    (hi : it.Inv) : (Iter.run cfg find n it).length ≤ it.rest.length :=
  run_eq_take cfg find hf n it hi ▸
    Nat.le_trans (List.length_take_le' _ _) (scanFrom_length_le cfg find hf _ _ _)

theorem new_inv (input : List Nat) : (Iter.new input).Inv := Iter.new_inv input

/-! Non-vacuity: the nullable pattern `a*` (terminal 0; start state not accepting) on `ba`. -/
def exCm : Nat → Nat → Bool := cmT [[(97, 97)]]
def exModes : List ModeDfa :=
  [{ dfa := { trans := [[(0, 1)], [(0, 1)]], ends := [(false, 0), (true, 0)], prio := [0] }, las := [] }]
example : Iter.run [⟨[], []⟩] (modelFinder exModes exCm) 5 (Iter.new [98, 97]) = [⟨0, 1, 2⟩] := by decide

end Scnr.C07

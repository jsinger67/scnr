import ScnrVerif.Proofs.Build
/-!
# C15 — unsupported regex features are rejected, never mis-compiled; build is total (partial)

Model of the error paths of `Nfa::try_from_ast`, `MultiPatternNfa::try_from_patterns`,
`CompiledDfa::try_from_patterns` (lookaheads) and `create_match_char_class` over **all ASTs at any
depth**, in any position of any mode or lookahead. `build` is a total Lean function (no panic
outcome). Parsing is regex-syntax's (trusted): a pattern enters the model as `none` (syntax error,
which includes look-around syntax) or its AST. PARTIAL: the regex parser, and resource limits of
huge repetition counts, are outside the model.
-/
namespace Scnr.C15

/-- Flags, assertions (anchors, word boundaries), non-greedy repetitions, flagged groups and
    unknown or valued Unicode classes anywhere - and any syntax error - make the build fail. -/
theorem unsupported_rejected (modes : List (List BPat)) (h : allSupported modes = false) :
    build modes ≠ .ok := by
  intro hb
  rw [ok_only_if_supported modes hb] at h
  cases h

theorem supported_builds (modes : List (List BPat)) (h : allSupported modes = true) : build modes = .ok :=
  Scnr.supported_builds modes h

theorem build_ok_iff (modes : List (List BPat)) : build modes = .ok ↔ allSupported modes = true :=
  Scnr.build_ok_iff modes

theorem hasUnsupported_iff (a : FAst) : a.hasUnsupported = true ↔
    match a with
    | .flags | .assertion => True
    | .cls s => s = false
    | .rep greedy x => greedy = false ∨ x.hasUnsupported = true
    | .group flagged x => flagged = true ∨ x.hasUnsupported = true
    | .alt x y | .concat x y => x.hasUnsupported = true ∨ y.hasUnsupported = true
    | _ => False := by
  cases a <;> simp [FAst.hasUnsupported]

/-! Non-vacuity: `a(?:\bfoo){0}b` (assertion under a zero-count repetition) is rejected; a lookahead
    with a valued Unicode class in the second mode is rejected; a plain configuration builds. -/
def exBad : FAst := .concat .literal (.concat (.rep true (.group false (.concat .assertion .literal))) .literal)
example : build [[⟨some exBad, none⟩]] = .unsupported := by decide
example : build [[⟨some .literal, none⟩], [⟨some .dot, some (some (.cls false))⟩]] = .unsupported := by decide
example : build [[⟨some .literal, none⟩], [⟨none, none⟩]] = .syntaxError := by decide
example : build [[⟨some (.alt .literal (.rep true (.cls true))), some (some .dot)⟩]] = .ok := by decide

end Scnr.C15
